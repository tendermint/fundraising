import Fundraising.Model.Types
/-
  types/bid.go (conversions), types/utils.go (SortBids, BidsByPrice), types/match.go
  (Match), keeper/match.go (CalculateFixedPriceAllocation, CalculateBatchAllocation and
  the `sort.Search` loop it uses).
-/
namespace Fundraising

/-- `Bid.ConvertToSellingAmount(payingDenom)` -/
def Bid.toSelling (b : Bid) (payDenom : Denom) : Int :=
  if b.denom = payDenom then Dec.truncInt (Dec.quoTrunc (Dec.ofInt b.amt) b.price)
  else b.amt

/-- `Bid.ConvertToPayingAmount(payingDenom)` -/
def Bid.toPaying (b : Bid) (payDenom : Denom) : Int :=
  if b.denom = payDenom then b.amt
  else Dec.truncInt (Dec.ceil (Dec.mul (Dec.ofInt b.amt) b.price))

/-! ### SortBids / BidsByPrice

`types.SortBids` calls `sort.Slice` with the comparator
`price_i > price_j || id_i < id_j`, which is not a strict weak order.  For at most 12
bids Go's pdqsort is a plain insertion sort, and on the id-ascending input the keeper
passes it behaves as a *stable* sort by price, descending — that is `sortBids`.  For
larger books the within-price order is implementation-defined; every theorem about
matching is stated for an arbitrary price-sorted arrangement of the bids
(`Arrangement`, Proofs/MatchList), and `sortBids` is only the arrangement the executable model uses.
-/

def insertByPrice (b : Bid) : List Bid → List Bid
  | [] => [b]
  | y :: ys => if y.price < b.price then b :: y :: ys else y :: insertByPrice b ys

def sortBids (bids : List Bid) : List Bid :=
  bids.foldl (fun acc b => insertByPrice b acc) []

/-- the distinct prices of a price-sorted bid list, descending (`prices` of `BidsByPrice`) -/
def distinctPrices : List Bid → List Dec
  | [] => []
  | [b] => [b.price]
  | b :: b' :: rest =>
    if b.price = b'.price then distinctPrices (b' :: rest)
    else b.price :: distinctPrices (b' :: rest)

/-! ### Match -/

/-- the quantity a bid asks for at match price `p`; `none` = Go leaves `bidAmt` nil -/
def bidQty (b : Bid) (p : Dec) : Option Int :=
  match b.type with
  | .worth => some (Dec.truncInt (Dec.quoTrunc (Dec.ofInt b.amt) p))
  | .many => some b.amt
  | .fixed => none

structure MAcc where
  price : Dec := 0                       -- res.MatchPrice
  total : Int := 0                       -- res.MatchedAmount
  rem : Acc → Option Int                 -- biddableAmtByBidder
  alloc : Acc → Int := fun _ => 0        -- MatchResultByBidder[·].MatchedAmount
  pay : Acc → Int := fun _ => 0          -- MatchResultByBidder[·].PayingAmount
  matched : List Bid := []               -- res.MatchedBids
  deriving Inhabited

inductive MRes where
  | panic               -- nil `math.Int` dereference in Go
  | nofit               -- `return nil, false`: supply exceeded
  | fit (acc : MAcc)
  deriving Inhabited

def bump (f : Acc → Int) (u : Acc) (x : Int) : Acc → Int :=
  fun v => if v = u then f v + x else f v

def matchStep (p : Dec) (S : Int) (acc : MAcc) (b : Bid) : MRes :=
  match bidQty b p, acc.rem b.bidder with
  | some q, some r =>
    let m := min q r
    if acc.total + m > S then .nofit
    else
      let payAmt := Dec.truncInt (Dec.ceil (Dec.mulInt p m))
      let acc := { acc with alloc := bump acc.alloc b.bidder m, pay := bump acc.pay b.bidder payAmt }
      if m > 0 then
        .fit { acc with rem := fun v => if v = b.bidder then some (r - m) else acc.rem v,
                        matched := acc.matched ++ [b],
                        total := acc.total + m }
      else .fit acc
  | _, _ => .panic

def matchLoop (p : Dec) (S : Int) : List Bid → MAcc → MRes
  | [], acc => .fit acc
  | b :: bs, acc =>
    match matchStep p S acc b with
    | .fit acc' => matchLoop p S bs acc'
    | r => r

def capsOf (allowed : List Allowed) : Acc → Option Int :=
  fun u => (lookupAllowed allowed u).map (·.cap)

/-- `types.Match(matchPrice, prices, bidsByPrice, sellingAmt, allowedBidders)` on the
    price-sorted bid list -/
def matchAt (p : Dec) (sorted : List Bid) (S : Int) (allowed : List Allowed) : MRes :=
  matchLoop p S (sorted.takeWhile (fun b => decide (p ≤ b.price))) { price := p, rem := capsOf allowed }

/-! ### sort.Search with the closure's stored result

`sort.Search(n, f)`: `i, j := 0, n; for i < j { h := (i+j)/2; if !f(h) { i = h+1 } else { j = h } }`.
The closure of `CalculateBatchAllocation` evaluates `Match` at `prices[n-1-h]` and keeps
the result of the last evaluation that returned true.  (After the `fix:` commit for C03
the closure's answer is "the demand fits the supply".)  `fuel` bounds the iterations;
`n` is always enough.
-/

def searchLoop (f : Nat → MRes) : Nat → Nat → Nat → Option MAcc → Option (Option MAcc)
  | 0, _, _, last => some last
  | fuel + 1, i, j, last =>
    if i < j then
      let h := (i + j) / 2
      match f h with
      | .panic => none
      | .nofit => searchLoop f fuel (h + 1) j last
      | .fit acc => searchLoop f fuel i h (some acc)
    else some last

structure MInfo where
  matchedLen : Int
  price : Dec
  total : Int
  alloc : List (Acc × Int)     -- AllocationMap, keys ascending
  refund : List (Acc × Int)    -- RefundMap, keys ascending
  matchedIds : List Nat
  deriving Repr, Inhabited

def insertAcc (u : Acc) : List Acc → List Acc
  | [] => [u]
  | y :: ys => if u < y then u :: y :: ys else if u = y then y :: ys else y :: insertAcc u ys

/-- the bidders that have at least one bid, ascending, without repetition
    (`sort.Strings` over the keys of a map keyed by bidder) -/
def biddersOf (bids : List Bid) : List Acc :=
  bids.foldl (fun l b => insertAcc b.bidder l) []

def sumOver (bids : List Bid) (u : Acc) (f : Bid → Int) : Int :=
  (bids.filter (·.bidder == u)).foldl (fun s b => s + f b) 0

/-- `CalculateFixedPriceAllocation` -/
def calcFixed (a : Auction) (bids : List Bid) : MInfo :=
  { matchedLen := bids.length
    price := a.startPrice
    total := bids.foldl (fun s b => s + b.toSelling a.payDenom) 0
    alloc := (biddersOf bids).map (fun u => (u, sumOver bids u (·.toSelling a.payDenom)))
    refund := []
    matchedIds := bids.map (·.id) }

/-- `CalculateBatchAllocation` without its store writes, given the arrangement `sorted`
    that `SortBids` produced; `none` = Go panics -/
def calcBatchWith (sorted : List Bid) (a : Auction) (bids : List Bid) (allowed : List Allowed) : Option MInfo :=
  let prices := distinctPrices sorted
  let n := prices.length
  let f := fun (h : Nat) => matchAt (prices.getD (n - 1 - h) 0) sorted a.sellAmt allowed
  match searchLoop f n 0 n none with
  | none => none
  | some res =>
    let bidders := biddersOf bids
    let reserved := fun u => sumOver bids u (·.toPaying a.payDenom)
    match res with
    | none =>
      some { matchedLen := 0, price := 0, total := 0
             alloc := bidders.map (fun u => (u, 0))
             refund := bidders.map (fun u => (u, reserved u))
             matchedIds := [] }
    | some acc =>
      some { matchedLen := acc.matched.length
             price := acc.price
             total := acc.total
             alloc := bidders.map (fun u => (u, acc.alloc u))
             refund := bidders.map (fun u => (u, reserved u - acc.pay u))
             matchedIds := acc.matched.map (·.id) }

/-- `CalculateBatchAllocation` with the arrangement of the executable model -/
def calcBatch (a : Auction) (bids : List Bid) (allowed : List Allowed) : Option MInfo :=
  calcBatchWith (sortBids bids) a bids allowed

end Fundraising
