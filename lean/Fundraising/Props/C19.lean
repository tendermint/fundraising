import Fundraising.Proofs.FrameProofs
import Fundraising.Proofs.WFProofs
/-
  C19 — Operations touch only their own auction and never alter agreed terms.
-/
namespace Fundraising

/-- an operation on one auction never changes another: a message or keeper-API call that
    names auction `a` leaves every other auction's record, bids, allow-list, instalments,
    counters and all three escrow balances exactly as they were (also when it fails) -/
theorem C19_frame_targeted (st : State) (op : Op) (a : Nat) (ht : op.target = some a) (j : Nat) (hj : j ≠ a) :
    (step st op).2.core.views[j]? = st.core.views[j]? ∧ SameEscrows st.core (step st op).2.core j :=
  frame_target st op a ht j hj

/-- creating an auction leaves every existing auction and its escrows untouched -/
theorem C19_frame_create (st : State) (m : CreateMsg) (j : Nat) (hj : j < st.core.views.length) :
    (step st (.msg (.create m))).2.core.views[j]? = st.core.views[j]? ∧
    SameEscrows st.core (step st (.msg (.create m))).2.core j :=
  let ⟨a, b, _⟩ := frame_create st m j hj
  ⟨a, b⟩

/-- the settlement of one auction never changes another: an auction with nothing due at the
    block's time is untouched by the block, whatever settles, extends or pays out in it -/
theorem C19_frame_block (st : State) (h : Reach st) (t : Int) (j : Nat) (v : AView)
    (hv : st.core.views[j]? = some v) (hidle : idleAt v t = true) :
    (step st (.block t)).2.core.views[j]? = some v ∧ SameEscrows st.core (step st (.block t)).2.core j :=
  frame_block_idle st t (wf_reach st h) j v hv hidle

/-- a bidder's allowance and bids in one auction never affect what they may do in
    another: the whole record of auction `a` (terms, allow-list, bids, queues) is the same after
    any operation that targets a different auction; what a message on `a` reads beyond that
    record is the bank, for which `C19_frame_targeted` gives the escrows of `a` -/
theorem C19_other_auction_irrelevant (st : State) (op : Op) (b : Nat) (ht : op.target = some b)
    (a : Nat) (hab : a ≠ b) :
    (step st op).2.core.views[a]? = st.core.views[a]? :=
  (frame_target st op b ht a hab).1

/-- agreed terms are never altered: in every reachable state, no operation changes an
    auction's id, type, auctioneer, offered coin, paying denomination, start price, minimum
    bid price, extension settings, vesting schedule, start time or first end time (the escrow
    addresses are functions of the id); bids keep their auction, id, owner, type and
    denomination (`Bid.ident`) -/
theorem C19_terms_immutable (st : State) (h : Reach st) (op : Op) (hop : op ≠ .reset)
    (i : Nat) (v : AView) (hv : st.core.views[i]? = some v) :
    ∃ v', (step st op).2.core.views[i]? = some v' ∧ v'.a.terms = v.a.terms ∧
      ∃ more, v'.bids.map Bid.ident = v.bids.map Bid.ident ++ more := by
  obtain ⟨v', h1, h2⟩ := view_step st op hop (wf_reach st h) i v hv
  exact ⟨v', h1, h2.terms, h2.bidsKept⟩

/-- ids are assigned in increasing order and never reused: auctions are numbered
    0, 1, 2, … in creation order and never removed; an auction's bids are numbered 1, 2, 3, …
    in placement order, the counter equals their number and never decreases -/
theorem C19_ids_increasing (st : State) (h : Reach st) :
    (∀ (i : Nat) (v : AView), st.core.views[i]? = some v → v.a.id = i ∧
        v.bids.map (·.id) = (List.range v.bids.length).map (· + 1) ∧ v.bidSeq = v.bids.length) ∧
    (∀ op, op ≠ .reset → st.core.views.length ≤ (step st op).2.core.views.length) := by
  refine ⟨fun i v hv => ?_, fun op hop => views_grow st op hop (wf_reach st h)⟩
  have hw := (wf_reach st h).views i v hv
  exact ⟨hw.id, hw.bidIds, hw.bidSeq⟩

end Fundraising
