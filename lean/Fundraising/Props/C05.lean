import Fundraising.Proofs.MatchLemmas
import Fundraising.Proofs.ProgressProofs
import Fundraising.Proofs.AcceptProofs
import Fundraising.Proofs.WFProofs
/-
  C05 — Nobody receives more than their allowance, their request, or the supply.
-/
namespace Fundraising

/-- batch: for the settlement computation on any well-formed book (every arrangement Go's
    sort may produce): total sold ≤ offered amount, and every bidder's allocation is within the
    maximum bid amount the allow-list grants them AS OF SETTLEMENT (`allowed` is the list read
    at settlement) and within what their bids ask for at the clearing price -/
theorem C05_batch_bounds (a : Auction) (bids sorted : List Bid) (allowed : List Allowed) (mi : MInfo)
    (hw : BookWF a bids allowed) (hs : Arrangement bids sorted)
    (h : calcBatchWith sorted a bids allowed = some mi) :
    0 ≤ mi.total ∧ mi.total ≤ a.sellAmt ∧
    mi.total = ((biddersOf bids).map (lookupAmt mi.alloc)).sum ∧
    ∀ u ∈ biddersOf bids,
      0 ≤ lookupAmt mi.alloc u ∧ lookupAmt mi.alloc u ≤ capOf allowed u ∧
      lookupAmt mi.alloc u ≤ rawDemand bids u mi.price := by
  obtain ⟨h1, h2, h3, _, _, hb⟩ := calcBatchWith_bounds a bids sorted allowed mi hw hs h
  exact ⟨h1, h2, h3, fun u hu => let ⟨a1, a2, a3, _⟩ := hb u hu; ⟨a1, a2, a3⟩⟩

/-- what is computed is what is transferred: the coins leaving the selling escrow at a batch
    settlement are exactly the non-zero allocations, one transfer per bidder, then the unsold
    rest to the auctioneer -/
theorem C05_batch_transfers_are_allocations (st : State) (h : Reach st) (t : Int)
    (hok : (step st (.block t)).1.res = .ok)
    (i : Nat) (v v' : AView) (mi : MInfo) (hv : st.core.views[i]? = some v)
    (hv' : (step st (.block t)).2.core.views[i]? = some v')
    (hs : v.a.status = .started) (hty : v.a.type = .batch)
    (hmi : calcBatch v.a v.bids v.allowed = some mi) (hsettled : v'.a.status ≠ .started) :
    ∃ rest,
      (xfersOf (step st (.block t)).1.effs).filter (fun x => x.src = .sell i) =
        ((mi.alloc.filter (fun p => p.2 ≠ 0)).map
            (fun p => (⟨.io, .sell i, .user p.1, [⟨v.a.sellDenom, p.2⟩]⟩ : Transfer)))
        ++ [⟨.send, .sell i, .user v.a.auctioneer, rest⟩] := by
  have hids : ∀ (j : Nat) (w : AView), st.core.views[j]? = some w → w.a.id = j :=
    fun j w hw => ((wf_reach st h).views j w hw).id
  obtain ⟨rest, proceeds, heq, hsrc, _⟩ :=
    batch_settlement_transfers st t hok i v v' mi hv hv' hs hty hids hmi hsettled
  refine ⟨rest, ?_⟩
  -- keep the transfers out of the selling escrow: the allocations and the unsold rest
  have := congrArg (List.filter (fun x : Transfer => decide (x.src = .sell i))) heq
  rw [List.filter_filter, List.filter_congr (q := fun x => decide (x.src = .sell i))
    (fun x _ => by by_cases hx : x.src = .sell i <;> simp [hx])] at this
  rw [this]
  simp [List.filter_append, List.filter_map, Function.comp_def, hsrc]

/-- fixed price: a bid is accepted only if the bidder's cumulative quantity incl. this
    bid is within the allowance AT THAT MOMENT and within the unsold remainder (so the total
    distributed never exceeds the offered amount) -/
theorem C05_fixed_acceptance_within_allowance (st : State) (h : Reach st) (bidder : Acc) (aid : Nat)
    (price : Dec) (denom : Denom) (amt : Int)
    (hf : st.ctl.failhook = none) (hk : st.ctl.fault = none)
    (hok : (step st (.msg (.place bidder aid (some .fixed) price denom amt))).1.res = .ok) :
    ∃ v ab, st.core.views[aid]? = some v ∧ lookupAllowed v.allowed bidder = some ab ∧
      let bid : Bid := { auction := aid, id := v.bidSeq + 1, bidder := bidder, type := .fixed, price := price,
                         denom := denom, amt := amt, matched := false }
      bidderTotal v bidder + bid.toSelling v.a.payDenom ≤ ab.cap ∧
      bid.toSelling v.a.payDenom ≤ v.a.remaining ∧
      v.a.remaining = v.a.sellAmt - soldOf v := by
  have hacc := (deliver_ok_iff st _ (wf_reach st h) (bankNonneg_reach st h) hf hk).1 hok
  obtain ⟨v, hv, hst, ab, hab, hrest⟩ := (hacc : AcceptPlace _ _ _ _ _ _ _).auction
  simp only at hrest
  obtain ⟨hty, _, _, hrem, hcap, _⟩ := hrest
  have hw := (wf_reach st h).views aid v hv
  exact ⟨v, ab, hv, hab, hcap, hrem, (hw.remaining hty (Or.inr hst)).1⟩

/-- fixed price: what leaves the escrows at the close is each bidder's allocation, the unsold
    rest and the proceeds; the allocations add up to the sum of the accepted bids, within the
    offered amount -/
theorem C05_fixed_transfers_are_accepted_bids (st : State) (h : Reach st) (t : Int)
    (hok : (step st (.block t)).1.res = .ok)
    (i : Nat) (v v' : AView) (hv : st.core.views[i]? = some v)
    (hv' : (step st (.block t)).2.core.views[i]? = some v')
    (hs : v.a.status = .started) (hty : v.a.type = .fixed) (hdue : v.a.lastEnd ≤ t) :
    ∃ rest proceeds,
      (xfersOf (step st (.block t)).1.effs).filter (fun x => x.src = .sell i ∨ x.src = .pay i) =
        (((calcFixed v.a v.bids).alloc.filter (fun p => p.2 ≠ 0)).map
            (fun p => (⟨.io, .sell i, .user p.1, [⟨v.a.sellDenom, p.2⟩]⟩ : Transfer)))
        ++ [⟨.send, .sell i, .user v.a.auctioneer, rest⟩] ++ [proceeds] ∧
      (calcFixed v.a v.bids).total = soldOf v ∧ soldOf v ≤ v.a.sellAmt := by
  have hids : ∀ (j : Nat) (w : AView), st.core.views[j]? = some w → w.a.id = j :=
    fun j w hw => ((wf_reach st h).views j w hw).id
  obtain ⟨_, _, rest, proceeds, heq, _⟩ := fixed_settlement_transfers st t hok i v v' hv hv' hs hty hids hdue
  have hw := (wf_reach st h).views i v hv
  obtain ⟨hr, hr0⟩ := hw.remaining hty (Or.inr hs)
  refine ⟨rest, proceeds, heq, ?_, by omega⟩
  unfold calcFixed soldOf
  simpa using foldl_add_eq_sum (·.toSelling v.a.payDenom) v.bids 0

end Fundraising
