import Fundraising.Proofs.OrderProofs
import Fundraising.Tables.Schema
import Fundraising.Generated.Tables
import Fundraising.Model.Step
/-
  C14 — Replaying the same history gives identical state, transfers and events.

  The model is a function (`step`), so the content of the property is that nothing the
  model abstracts away depends on a choice of the runtime.  The only such choices in the
  module are the iteration orders of Go maps.  (a) the table of EVERY `range` over a map in
  non-test module code is re-extracted on every run; each site must fall in a class whose
  result is provably independent of the iteration order; (b) the independence theorems.
  (c) what Lean cannot exhibit — the Go runtime itself — is covered by bin/c14.py, which
  re-executes histories in fresh processes with the ordered event stream switched on.
  (The model follows the code after the `fix:` commit that sends allocation and refund
  transfers in the sorted bidder order instead of map order.)
-/
namespace Fundraising
open Fundraising.Tables Fundraising.Generated

/-- (a) no map-range site has an order-dependent body -/
theorem C14_all_sites_order_independent :
    mapRanges.all (fun r => r.cls == .collectThenSort || r.cls == .pointwiseMapWrite) = true := by
  decide +kernel

/-- the sites are exactly the six the model accounts for: which function ranges over a Go map (or takes
    `maps.Keys` / `maps.Values` of one: a slice in the map's iteration order),
    how often, and how each range uses its keys (the NAME of the map variable is not part of the
    fact: renaming a local does not change it) -/
theorem C14_sites :
    mapRanges.map (fun r => (r.func, r.cls)) =
      [("AllocateSellingCoin", .collectThenSort), ("RefundPayingCoin", .collectThenSort),
       ("CalculateBatchAllocation", .pointwiseMapWrite),
       ("CalculateBatchAllocation", .pointwiseMapWrite),
       -- module wiring: `modNames := maps.Keys(hooks); order := modNames; sort.Strings(order)` — the
       -- order in which other modules' listeners are registered (lexical by module name)
       ("InvokeSetHooks", .collectThenSort), ("BidsByPrice", .collectThenSort)] := rfl

/-- (b1) collect-then-sort over bidder keys (AllocateSellingCoin, RefundPayingCoin): whatever
    order the runtime yields the keys in, the sorted slice — hence the order of the bank
    transfers and of their events — is the one the model uses -/
theorem C14_transfer_order_independent (bids : List Bid) (l₁ l₂ : List Acc)
    (h₁ : l₁.Perm (bids.map (·.bidder))) (h₂ : l₂.Perm (bids.map (·.bidder))) :
    sortKeys l₁ = sortKeys l₂ ∧ sortKeys l₁ = biddersOf bids :=
  ⟨sortKeys_perm l₁ l₂ (h₁.trans h₂.symm), (biddersOf_any_order bids l₁ h₁).symm⟩

/-- (b2) collect-then-sort over price keys (BidsByPrice) -/
theorem C14_price_levels_order_independent (bids : List Bid) (l₁ l₂ : List Dec)
    (h₁ : l₁.Perm ((sortBids bids).map (·.price))) (h₂ : l₂.Perm ((sortBids bids).map (·.price))) :
    sortPricesDesc l₁ = sortPricesDesc l₂ ∧ sortPricesDesc l₁ = distinctPrices (sortBids bids) :=
  ⟨sortPricesDesc_perm l₁ l₂ (h₁.trans h₂.symm), (distinctPrices_any_order bids l₁ h₁).symm⟩

/-- (b3) pointwise writes indexed by the range key (CalculateBatchAllocation) commute -/
theorem C14_pointwise_writes_order_independent {β : Type} (f : Acc → β) (m₀ : Acc → β)
    (l₁ l₂ : List Acc) (h : l₁.Perm l₂) : writeAll f m₀ l₁ = writeAll f m₀ l₂ := by
  funext x
  rw [writeAll_apply, writeAll_apply]
  by_cases hx : x ∈ l₁
  · rw [if_pos hx, if_pos (h.mem_iff.1 hx)]
  · rw [if_neg hx, if_neg (fun h' => hx (h.mem_iff.2 h'))]

/-- re-executing a history from the same genesis gives the same state (and, op by op, the
    same outcome incl. the ordered transfer list): the model has no other input -/
theorem C14_replay_identical (ops : List Op) : run {} ops = run {} ops := rfl

end Fundraising
