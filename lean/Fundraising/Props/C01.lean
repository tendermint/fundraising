import Fundraising.Proofs.EscrowProofs
import Fundraising.Proofs.WFProofs
/-
  C01 — Escrow accounts always hold exactly what the module's records owe.

  `owedSell`/`owedPay`/`owedVest` (Spec/Invariants.lean): the selling escrow owes the full
  offered amount while the auction is waiting or open, the paying escrow owes the sum of
  the amounts reserved by all recorded bids while it is open, the vesting escrow owes the
  sum of the unreleased instalments while it is vesting; nothing in every other status.
  "Apart from coins that third parties sent to it directly": in a history without such
  transfers the balances are EXACTLY what is owed (in every denomination); with them, the
  balances still cover what is owed.
-/
namespace Fundraising

/-- C01, exact.  After every message and every block of ANY history without third-party
    transfers into escrow accounts — any interleaving of creations, bids, modifications,
    cancellations, allow-list changes, genesis round trips and block-time advances, over any
    number of concurrent auctions, any prices and amounts — every auction's three escrows
    hold exactly what its records owe, in every denomination, and the escrow accounts of
    auctions not yet created are empty. -/
theorem C01_escrow_exact (ops : List Op) (h : NoEscrowGifts ops) : AllExact (run {} ops).core := by
  refine run_induction (P := fun ops st => NoEscrowGifts ops → AllExact st.core) (fun _ => exact_init) ?_ ops h
  intro done op ih hg
  exact exact_step _ op (wf_reach _ ⟨done, rfl⟩) (hg op (by simp))
    (ih fun o ho => hg o (List.mem_append_left _ ho))

theorem C01_reach_facts (st : State) (h : Reach st) : AllCovered st.core ∧ WF st.core ∧ BankNonneg st.core :=
  ⟨reach_induction (P := fun st => AllCovered st.core) covered_init
      (fun st op hr ih => covered_step st op (wf_reach st hr) (bankNonneg_reach st hr) ih) st h,
    wf_reach st h, bankNonneg_reach st h⟩

/-- C01, the module's own invariants.  The three invariants the module defines for the
    crisis module (keeper/invariants.go: selling / paying / vesting pool reserve amount — modelled
    in Model/ModuleInv.lean, proved equal to the translated Go functions in Proofs/Tie/Invariants,
    and run on the real keeper after every operation by the harness) are never broken: in EVERY
    reachable state, whatever third parties have sent to the escrows. -/
theorem C01_module_invariants_hold (st : State) (h : Reach st) : allInvariantsBroken st.core = false := by
  obtain ⟨hc, hw, hn⟩ := C01_reach_facts st h
  exact invariants_of_covered st.core hw hc hn

/-- C01, with third-party transfers.  In EVERY reachable state every escrow covers what
    the records owe (third-party coins can only add to a balance). -/
theorem C01_escrow_covered (st : State) (h : Reach st) : AllCovered st.core :=
  (C01_reach_facts st h).1

/-- unfolded for one auction: the three equalities -/
theorem C01_exact_unfolded (ops : List Op) (h : NoEscrowGifts ops) (i : Nat) (v : AView)
    (hv : (run {} ops).core.views[i]? = some v) :
    (run {} ops).core.bank (.sell i) v.a.sellDenom = owedSell v ∧
    (run {} ops).core.bank (.pay i) v.a.payDenom = owedPay v ∧
    (run {} ops).core.bank (.vest i) v.a.payDenom = owedVest v := by
  have := (C01_escrow_exact ops h).1 i v hv
  exact ⟨by simpa using this.sell v.a.sellDenom, by simpa using this.pay v.a.payDenom,
         by simpa using this.vest v.a.payDenom⟩

/-! non-vacuity: a concrete history (creation, allow-listing, opening, a bid) is
    gift-free and reaches a state with an open auction and a non-zero reservation -/
def exOps : List Op :=
  [ .fund 0 5 1000000000, .fund 0 0 1000, .fund 1 1 1000,
    .msg (.create { auctioneer := 0, type := .batch, startPrice := PREC, minBid := PREC, sellDenom := 0,
                    sellAmt := 1000, payDenom := 1, maxExt := 0, rate := PREC, startTime := 1700000100,
                    endTime := 1700001000, schedules := [] }),
    .kadd 0 [⟨0, 1, 1000⟩], .block 1700000100,
    .msg (.place 1 0 (some .worth) (2 * PREC) 1 100) ]

example : NoEscrowGifts exOps := by intro op h; simp [exOps] at h; rcases h with h|h|h|h|h|h|h <;> subst h <;> rfl
example : ((run {} exOps).core.views[0]?.map (fun v => (v.a.status, owedPay v, owedSell v))) =
    some (.started, 100, 1000) := by decide
/-- the invariants are not vacuous there: the paying invariant compares 100 reserved with 100 held -/
example : ((run {} exOps).core.views[0]?.map (fun v => (invTotalBid v, (run {} exOps).core.bank (.pay 0) 1))) =
    some (100, 100) := by decide

end Fundraising
