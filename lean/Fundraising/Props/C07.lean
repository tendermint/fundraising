import Fundraising.Proofs.TotalBlock
import Fundraising.Proofs.TotalSim
import Fundraising.Props.C01
/-
  C07 — Block processing never fails, and never hides a failure.
  (The model follows the code after the `fix:` commit to BeginBlocker: finished and cancelled
  auctions are skipped and the first failing auction's error is returned.)
  Outside the model (see DESIGN §4): the 256/315-bit caps of math.Int / LegacyDec, protobuf
  timestamp range, failures of the store itself.
-/
namespace Fundraising

/-- first sentence.  In EVERY reachable state — any number of auctions in any statuses
    incl. finished and cancelled, empty order books, zero proceeds, any prices and amounts —
    at EVERY block time, `BeginBlocker` succeeds: no error, no panic (no injected fault, no
    vetoing listener). -/
theorem C07_block_never_fails (st : State) (h : Reach st) (t : Int)
    (hf : st.ctl.failhook = none) (hk : st.ctl.fault = none) :
    (step st (.block t)).1.res = .ok := by
  obtain ⟨hc, hw, hn⟩ := C01_reach_facts st h
  exact runAtomic_ok_iff.mpr (beginBlock_total st.core st.ctl t hw hn hc hf hk)

/-- second sentence, bank transfers.  Whichever auction it belongs to: if the `k`-th bank
    call of the block fails, the block reports an error and commits nothing. -/
theorem C07_failure_reported_transfer (st : State) (t : Int) (k : Nat) (hk : st.ctl.fault = none)
    (hok : (step st (.block t)).1.res = .ok)
    (hlt : k < xferCount (step st (.block t)).1.effs) :
    let st' : State := { st with ctl := { st.ctl with fault := some k } }
    (step st' (.block t)).1.res = .err ∧
    (step st' (.block t)).2.core = { st.core with now := t } := by
  intro st'
  -- the proof has no use for `hk`; it is mentioned for the unused-variable linter
  have _ := hk
  obtain ⟨_, _, h⟩ := step_armed (faultSpec_ok k) st (.block t) ⟨rfl, Nat.zero_le _⟩ hok
    (fun n hn => Nat.lt_irrefl k (Nat.lt_of_lt_of_le hlt (hn.1 ▸ hn.2)))
  exact ⟨congrArg (·.1.res) h, congrArg (·.2.core) h⟩

/-- second sentence, listeners.  If a listener that the block calls returns an error, the
    block reports an error and commits nothing. -/
theorem C07_failure_reported_hook (st : State) (t : Int) (name : String) (idx : Nat)
    (args : List String) (hf : st.ctl.failhook = none)
    (hok : (step st (.block t)).1.res = .ok)
    (hcall : Eff.hook idx name args ∈ (step st (.block t)).1.effs) :
    let st' : State := { st with ctl := { st.ctl with failhook := some (name, idx) } }
    (step st' (.block t)).1.res = .err ∧
    (step st' (.block t)).2.core = { st.core with now := t } := by
  intro st'
  have _ := hf
  obtain ⟨_, _, h⟩ := step_armed (hookSpec_ok name idx) st (.block t) (fun _ _ hm => nomatch hm) hok
    (fun _ hn => Nat.lt_irrefl idx (hn idx args hcall))
  exact ⟨congrArg (·.1.res) h, congrArg (·.2.core) h⟩

/-! non-vacuity and regression witness of the repaired defect: a state whose highest-id
    auction is cancelled (create, cancel) — the block succeeds -/
def exCancelled : List Op :=
  [ .fund 0 5 1000000000, .fund 0 0 1000,
    .msg (.create { auctioneer := 0, type := .fixed, startPrice := PREC, sellDenom := 0, sellAmt := 1000,
                    payDenom := 1, startTime := 1700000100, endTime := 1700001000, schedules := [] }),
    .msg (.cancel 0 0) ]

example : ((run {} exCancelled).core.views[0]?.map (·.a.status)) = some .cancelled := by decide
example : (step (run {} exCancelled) (.block 1700000200)).1.res = .ok := by decide

end Fundraising
