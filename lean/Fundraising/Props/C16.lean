import Fundraising.Proofs.ProgressProofs
import Fundraising.Proofs.WFProofs
/-
  C16 — Published results agree with what was actually settled.
  (The model follows the code after the `fix:` commits for IsMatched, MatchedPrice and the
  ListBid filters.)  Known finding (not repaired, see known_findings.json): ListAllowedBidder
  and ListVestingQueue ignore the request's auction_id — `queryAllowedAll` / `queryVestingsAll`
  model the code as it is, and `C16_list_allowed_ignores_auction_id` below proves the statement
  false for them with a concrete witness.
-/
namespace Fundraising

/-- batch: after the final settlement a bid is flagged matched exactly when it is in the
    final matching — i.e. exactly when it received coins (`matchStep`, Model/Match.lean, puts a
    bid into the matching only with a positive match amount) — also when it was provisionally
    matched in an earlier round and outbid later; the published matched price is the clearing
    price that was used, zero if nothing was sold -/
theorem C16_batch_flags_and_price (st : State) (t : Int) (hok : (step st (.block t)).1.res = .ok)
    (i : Nat) (v v' : AView) (mi : MInfo) (hv : st.core.views[i]? = some v)
    (hv' : (step st (.block t)).2.core.views[i]? = some v')
    (hs : v.a.status = .started) (hty : v.a.type = .batch) (hdue : v.a.lastEnd ≤ t)
    (hmi : calcBatch v.a v.bids v.allowed = some mi) :
    v'.bids = v.bids.map (fun b => { b with matched := mi.matchedIds.contains b.id }) ∧
    (v'.a.status ≠ .started → v'.a.matchedPrice = (if mi.total > 0 then mi.price else 0)) :=
  let ⟨_, b, _, d⟩ := block_extends_iff st t hok i v v' mi hv hv' hs hty hdue hmi
  ⟨b, d⟩

/-- in every reachable state the matched-bids counter of a batch auction equals the number of
    flagged bids -/
theorem C16_counter_matches_flags (st : State) (h : Reach st) (i : Nat) (v : AView)
    (hv : st.core.views[i]? = some v) (hty : v.a.type = .batch) :
    v.matchedLen = countMatched v.bids :=
  ((wf_reach st h).views i v hv).matchedLenBatch hty

/-- fixed price: a bid is flagged at placement exactly when it buys at least one coin,
    which is exactly what it receives at the close -/
theorem C16_fixed_flag (st : State) (bidder : Acc) (aid : Nat) (price : Dec) (denom : Denom) (amt : Int)
    (v v' : AView) (hv : st.core.views[aid]? = some v)
    (hok : (step st (.msg (.place bidder aid (some .fixed) price denom amt))).1.res = .ok)
    (hv' : (step st (.msg (.place bidder aid (some .fixed) price denom amt))).2.core.views[aid]? = some v') :
    ∃ b, v'.bids = v.bids ++ [b] ∧ (b.matched = true ↔ 0 < b.toSelling v.a.payDenom) :=
  let ⟨b, h1, _, _, _, _, _, h7, _⟩ := fixed_bid_flag st bidder aid price denom amt v v' hv hok hv'
  ⟨b, h1, h7⟩

/-- instalments: flagged released exactly when paid (the flag flips in the block that
    makes the transfer, see C09_released_when_due_once), and in every reachable state the
    released instalments form a prefix, a vesting auction has its last instalment unpaid, a
    finished one has all paid -/
theorem C16_released_flags_consistent (st : State) (h : Reach st) (i : Nat) (v : AView)
    (hv : st.core.views[i]? = some v) :
    v.vqs.Pairwise (fun q q' => q'.released = true → q.released = true) ∧
    (v.a.status = .vesting → ∃ q, v.vqs.getLast? = some q ∧ q.released = false) ∧
    (v.a.status = .finished → ∀ q ∈ v.vqs, q.released = true) :=
  let hw := (wf_reach st h).views i v hv
  ⟨hw.releasedPrefix, hw.vestingOpen, hw.finishedAll⟩

/-! ### queries -/

/-- `ListBid` returns exactly the stored bids of the auction that satisfy the request -/
theorem C16_list_bid_is_filter (s : Core) (aid : Nat) (v : AView) (hv : s.views[aid]? = some v)
    (bidder : Option Acc) (matched : Option Bool) (b : Bid) :
    b ∈ queryBids s aid bidder matched ↔
      (b ∈ v.bids ∧ (∀ u, bidder = some u → b.bidder = u) ∧ (∀ m, matched = some m → b.matched = m)) := by
  unfold queryBids
  rw [hv]
  -- an optional filter is absent (always true) or an equality test
  cases bidder <;> cases matched <;> simp [List.mem_filter]

theorem C16_list_auction_is_filter (s : Core) (st : Option Status) (ty : Option AType) (a : Auction) :
    a ∈ queryAuctions s st ty ↔
      (a ∈ s.views.map (·.a) ∧ (∀ x, st = some x → a.status = x) ∧ (∀ x, ty = some x → a.type = x)) := by
  unfold queryAuctions
  cases st <;> cases ty <;> simp [List.mem_filter]

/-- queries by id are look-ups -/
theorem C16_get_is_lookup (s : Core) (aid : Nat) :
    queryAuction s aid = (s.views[aid]?).map (·.a) ∧
    (∀ bidId, queryBid s aid bidId = (s.views[aid]?).bind (fun v => v.bids.find? (·.id == bidId))) ∧
    (∀ u, queryAllowedOne s aid u = (s.views[aid]?).bind (fun v => lookupAllowed v.allowed u)) :=
  ⟨rfl, fun _ => rfl, fun _ => rfl⟩

/-- known finding, proved: the listing of allowed bidders (as the code has it) returns
    records that do not satisfy the request's auction_id -/
theorem C16_list_allowed_ignores_auction_id :
    ∃ (s : Core) (aid : Nat) (p : Nat × Allowed), p ∈ queryAllowedAll s ∧ p.1 ≠ aid := by
  refine ⟨{ views := [{ a := { id := 0, type := .fixed, auctioneer := 0, sellDenom := 0, sellAmt := 1,
                                payDenom := 1, startPrice := 1, startTime := 0, endTimes := [1],
                                schedules := [], status := .standby },
                         allowed := [⟨1, 1⟩] }] }, 1, (0, ⟨1, 1⟩), ?_, by decide⟩
  simp [queryAllowedAll]

end Fundraising
