import Fundraising.Proofs.VestingLemmas
import Fundraising.Proofs.ProgressProofs
import Fundraising.Proofs.FrameProofs
import Fundraising.Proofs.WFProofs
import Fundraising.Proofs.LivenessProofs
/-
  C13 — Extended rounds follow the anti-sniping rule and are bounded.
  Reading R2 (DESIGN §5): "fallen by at least the configured rate" is evaluated in the module's
  own 18-decimal arithmetic, `1 − Quo(curr, last) ≥ rate`; `C13_rule_vs_exact_*` bound the
  disagreement with the exact rational comparison to the band |fall − rate| < 10^-18.
-/
namespace Fundraising

/-- the rule.  At an end time of an open batch auction (first block at or after it), with
    `mi` the matching on the recorded bids and `v.matchedLen` the number of matched bids
    recorded at the previous end time: the auction is extended iff rounds are left and (there
    is nothing to compare with, or the rule holds); otherwise it settles.  Either way the
    matched-bids counter is rewritten from `mi` (the flags: `C16_batch_flags_and_price`). -/
theorem C13_extended_iff (st : State) (t : Int) (hok : (step st (.block t)).1.res = .ok)
    (i : Nat) (v v' : AView) (mi : MInfo) (hv : st.core.views[i]? = some v)
    (hv' : (step st (.block t)).2.core.views[i]? = some v')
    (hs : v.a.status = .started) (hty : v.a.type = .batch) (hdue : v.a.lastEnd ≤ t)
    (hmi : calcBatch v.a v.bids v.allowed = some mi) :
    (v'.a.status = .started ↔
      (v.a.maxExt + 1 ≠ v.a.endTimes.length ∧
        (v.matchedLen = 0 ∨ shouldExtend mi.matchedLen v.matchedLen v.a.rate = true))) ∧
    v'.matchedLen = mi.matchedLen :=
  let ⟨a, _, c, _⟩ := block_extends_iff st t hok i v v' mi hv hv' hs hty hdue hmi
  ⟨a, c⟩

/-- each extension appends exactly one end time, one configured period after the previous
    one, only in a block at or after that end time, only while rounds are left — and nothing
    else ever changes an auction's end times (period 0 included) -/
theorem C13_extension_appends (st : State) (h : Reach st) (op : Op) (hop : op ≠ .reset)
    (i : Nat) (v v' : AView) (hv : st.core.views[i]? = some v)
    (hv' : (step st op).2.core.views[i]? = some v') (hne : v'.a.endTimes ≠ v.a.endTimes) :
    ∃ t, op = .block t ∧ v.a.status = .started ∧ v.a.type = .batch ∧ v.a.lastEnd ≤ t ∧
      v.a.endTimes.length < v.a.maxExt + 1 ∧
      v'.a.endTimes = v.a.endTimes ++ [v.a.lastEnd + 86400 * (st.core.params.period : Int)] ∧
      v'.a.status = .started :=
  endTimes_step st op hop (wf_reach st h) i v v' hv hv' hne

/-- bounded: in every reachable state an auction has at most one plus its maximum extended
    rounds end times, and the maximum is at most 30 -/
theorem C13_rounds_bounded (st : State) (h : Reach st) (i : Nat) (v : AView)
    (hv : st.core.views[i]? = some v) :
    v.a.endTimes.length ≤ v.a.maxExt + 1 ∧ v.a.maxExt ≤ 30 ∧ v.a.endTimes ≠ [] :=
  rounds_bounded st h i v hv

/-- each end-time event (a block at or after the current end time of an open auction) either
    settles it or strictly decreases the number of rounds left `maxExt + 1 − #endTimes` -/
theorem C13_end_time_event_settles_or_consumes_a_round (st : State) (h : Reach st) (t : Int)
    (hok : (step st (.block t)).1.res = .ok)
    (i : Nat) (v v' : AView) (hv : st.core.views[i]? = some v)
    (hv' : (step st (.block t)).2.core.views[i]? = some v')
    (hs : v.a.status = .started) (hdue : v.a.lastEnd ≤ t) :
    (v'.a.status = .vesting ∨ v'.a.status = .finished) ∨
    (v'.a.status = .started ∧ v'.a.maxExt = v.a.maxExt ∧
      v'.a.maxExt + 1 - v'.a.endTimes.length < v.a.maxExt + 1 - v.a.endTimes.length) :=
  end_time_event_settles_or_consumes_a_round st h t hok i v v' hv hv' hs hdue

/-- every auction eventually settles: ANY sequence of successful blocks, each at or after
    the auction's then-current end time, that is at least `maxExt + 2 − #endTimes` long (so at
    most 31 such end-time events) leaves the auction settled — whatever its bids, rate, and
    extension period (zero included: one event per block) -/
theorem C13_every_auction_eventually_settles (st : State) (h : Reach st) (i : Nat) (v : AView)
    (hv : st.core.views[i]? = some v) (hs : v.a.status = .started) (ts : List Int)
    (hdue : DueRun i st ts) (hlen : v.a.maxExt + 2 ≤ ts.length + v.a.endTimes.length) :
    ∃ v', (runBlocks st ts).core.views[i]? = some v' ∧
      (v'.a.status = .vesting ∨ v'.a.status = .finished) := by
  induction ts generalizing st v with
  | nil =>
    have hb := (rounds_bounded st h i v hv).1
    simp at hlen
    omega
  | cons t ts ih =>
    obtain ⟨hok, hd, hrest⟩ := hdue
    obtain ⟨v', hv', _⟩ := view_step st (.block t) (by simp) (wf_reach st h) i v hv
    rw [LivenessInv.runBlocks_cons]
    have hr := reach_step h (.block t)
    rcases end_time_event_settles_or_consumes_a_round st h t hok i v v' hv hv' hs
        (hd v hv hs) with hdone | ⟨hst, hm, hlt⟩
    · exact LivenessInv.settled_runBlocks ts _ hr i v' hv' hdone
    · refine ih _ hr v' hv' hst hrest ?_
      simp only [List.length_cons] at hlen
      omega

/-! ### the rule's arithmetic

Both comparisons with the exact ratio multiply by `last > 0`, where `q·last` lies within `last` of `curr·10^18`
(`q` the computed quotient).  `_above` uses only the upper bound `q·last ≤ curr·10^18 + last`: the one unit of slack is
the `+1` in its hypothesis, so the weak `quo_ofInt_close` suffices.  `_below` must refute `rate ≤ 10^18 − q`; the weak
lower bound `curr·10^18 ≤ q·last + last` with the margin `−1` leaves equality possible, the strong form (half a unit,
strict) does not. -/

theorem C13_rule_unfolded (curr last : Int) (rate : Dec) :
    shouldExtend curr last rate = true ↔ rate ≤ PREC - Dec.quo (Dec.ofInt curr) (Dec.ofInt last) :=
  shouldExtend_iff curr last rate

/-- fallen by at least `rate + 10^-18` ⇒ extended -/
theorem C13_rule_vs_exact_above (curr last : Int) (rate : Dec) (hc : 0 ≤ curr) (hl : 0 < last)
    (h : (rate + 1) * last ≤ (last - curr) * PREC) : shouldExtend curr last rate = true := by
  rw [shouldExtend_iff]
  obtain ⟨h1, _⟩ := quo_ofInt_close curr last hc hl
  unfold Dec at *
  generalize Dec.quo (Dec.ofInt curr) (Dec.ofInt last) = q at *
  rw [Int.add_mul, Int.sub_mul] at h
  refine Int.le_of_mul_le_mul_right ?_ hl
  rw [Int.sub_mul]
  unfold PREC at *
  omega

/-- fallen by at most `rate − 10^-18` (or risen) ⇒ settled -/
theorem C13_rule_vs_exact_below (curr last : Int) (rate : Dec) (hc : 0 ≤ curr) (hl : 0 < last)
    (h : (last - curr) * PREC ≤ (rate - 1) * last) : shouldExtend curr last rate = false := by
  rw [Bool.eq_false_iff, Ne, shouldExtend_iff]
  obtain ⟨_, h2⟩ := quo_ofInt_close_strong curr last hc hl
  intro hle
  unfold Dec at *
  generalize Dec.quo (Dec.ofInt curr) (Dec.ofInt last) = q at *
  have m := Int.mul_le_mul_of_nonneg_right hle (Int.le_of_lt hl)
  rw [Int.sub_mul] at m
  rw [Int.sub_mul, Int.sub_mul] at h
  unfold PREC HALF at *
  omega

/-- exact when the ratio is representable -/
theorem C13_rule_exact_when_representable (curr last : Int) (rate : Dec) (hc : 0 ≤ curr) (hl : 0 < last)
    (hdiv : last ∣ curr * PREC) :
    shouldExtend curr last rate = true ↔ rate * last ≤ (last - curr) * PREC := by
  obtain ⟨k, hk⟩ := hdiv
  rw [shouldExtend_iff, quo_ofInt_exact curr last k hc hl hk]
  have e2 : (last - curr) * PREC = (PREC - k) * last := by
    rw [Int.sub_mul, Int.sub_mul, hk, Int.mul_comm last PREC, Int.mul_comm last k]
  rw [e2]
  exact ⟨fun h => Int.mul_le_mul_of_nonneg_right h (Int.le_of_lt hl),
    fun h => Int.le_of_mul_le_mul_right h hl⟩

/-! non-vacuity: 2 → 1 matched bids at rate 0.5 extends (fall = rate exactly); 3 → 2 at rate
    1/3 rounded down extends, at 1/3 rounded up does not -/
example : shouldExtend 1 2 (PREC / 2) = true := by decide
example : shouldExtend 2 3 333333333333333333 = true := by decide
example : shouldExtend 2 3 333333333333333334 = false := by decide

end Fundraising
