import Fundraising.Spec.Clearing
import Fundraising.Proofs.MatchLemmas
import Fundraising.Proofs.DecLemmas
/-
  C04 — Winners pay one uniform price, never above their limit, within rounding.
  Batch part: for every arrangement `SortBids` may produce.  Fixed-price part: the two
  conversions of `types/bid.go`.
-/
namespace Fundraising

/-- batch.  For the settlement result at matched price `X`, every bidder `u` with a
    bid, `pay = reserved − refund`, `k` = number of `u`'s matched bids:
    `X·alloc ≤ 10^18·pay` (at least price × quantity), `10^18·pay < X·alloc + 10^18·k`
    (less than one smallest paying unit more per matched bid), `pay ≤ reserved`, every
    matched bid is priced at or above `X`, and a bidder who wins nothing is refunded in
    full. -/
theorem C04_batch_uniform_price (a : Auction) (bids sorted : List Bid) (allowed : List Allowed) (mi : MInfo)
    (hw : BookWF a bids allowed) (hs : Arrangement bids sorted)
    (h : calcBatchWith sorted a bids allowed = some mi) :
    (∀ id ∈ mi.matchedIds, ∃ b ∈ bids, b.id = id ∧ mi.price ≤ b.price) ∧
    ∀ u ∈ biddersOf bids,
      let alloc := lookupAmt mi.alloc u
      let refund := lookupAmt mi.refund u
      let pay := reservedOf bids a.payDenom u - refund
      let k : Int := ((bids.filter (fun b => b.bidder == u && mi.matchedIds.contains b.id)).length : Int)
      mi.price * alloc ≤ PREC * pay ∧
      (0 < alloc → PREC * pay < mi.price * alloc + PREC * k) ∧
      pay ≤ reservedOf bids a.payDenom u ∧ 0 ≤ refund ∧
      (alloc = 0 → refund = reservedOf bids a.payDenom u) := by
  obtain ⟨_, _, _, _, hm, hb⟩ := calcBatchWith_bounds a bids sorted allowed mi hw hs h
  refine ⟨hm, fun u hu => ?_⟩
  obtain ⟨_, _, _, h4, h5, h6, h7, h8⟩ := hb u hu
  exact ⟨h6, h8, h5, h4, h7⟩

/-- fixed price, paying-denominated bid of `c` paying coins at price `p`: it receives
    `q = ⌊c/p⌋` selling coins and pays `c`: `p·q ≤ c·10^18 < p·(q+1)` — less than one
    selling coin's worth of rounding, in the auctioneer's favour -/
theorem C04_fixed_paying_denominated (b : Bid) (pd : Denom) (hd : b.denom = pd)
    (ha : 0 ≤ b.amt) (hp : 0 < b.price) :
    b.toPaying pd = b.amt ∧
    b.price * b.toSelling pd ≤ b.amt * PREC ∧ b.amt * PREC < b.price * (b.toSelling pd + 1) := by
  rw [Bid.toSelling_pay b pd hd ha hp, Bid.toPaying_pay b pd hd]
  refine ⟨rfl, ?_, ?_⟩
  · have := Int.ediv_mul_le (b.amt * PREC) (Int.ne_of_gt hp)
    rw [Int.mul_comm b.price]; exact this
  · have := Int.lt_ediv_add_one_mul_self (b.amt * PREC) hp
    rw [Int.mul_comm b.price]; exact this

/-- fixed price, selling-denominated bid of `a` selling coins at price `p`: it receives
    `a` and pays `⌈a·p⌉`: `a·p ≤ 10^18·pay < a·p + 10^18` — less than one smallest paying
    unit of rounding, in the auctioneer's favour -/
theorem C04_fixed_selling_denominated (b : Bid) (pd : Denom) (hd : b.denom ≠ pd)
    (ha : 0 ≤ b.amt) (hp : 0 ≤ b.price) :
    b.toSelling pd = b.amt ∧
    b.amt * b.price ≤ PREC * b.toPaying pd ∧ PREC * b.toPaying pd < b.amt * b.price + PREC := by
  rw [Bid.toSelling_sell b pd hd, Bid.toPaying_sell b pd hd ha hp]
  have h := Dec.ceilDiv_spec (b.amt * b.price)
  refine ⟨rfl, ?_, ?_⟩
  · rw [Int.mul_comm PREC]; exact h.1
  · rw [Int.mul_comm PREC]; exact h.2

/-! non-vacuity: price 1/3 (non-terminating), both denominations -/
example : (⟨0, 1, 1, .fixed, 333333333333333333, 1, 100, false⟩ : Bid).toSelling 1 = 300 := by decide
example : (⟨0, 1, 1, .fixed, 333333333333333333, 0, 100, false⟩ : Bid).toPaying 1 = 34 := by decide

end Fundraising
