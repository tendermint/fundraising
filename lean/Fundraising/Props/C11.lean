import Fundraising.Proofs.FrameProofs
import Fundraising.Proofs.AcceptProofs
import Fundraising.Proofs.WFProofs
/-
  C11 — Bids can only grow, only by their owner, and are never removed.
-/
namespace Fundraising

/-- accepted exactly when: signed by the account that placed the bid, the batch auction
    is open, same denomination, price and amount both not lower with at least one strictly
    higher, price at or above the minimum bid price (and funds for the increase) -/
theorem C11_modify_accepted_iff (st : State) (h : Reach st) (bidder : Acc) (aid bidId : Nat)
    (price : Dec) (denom : Denom) (amt : Int)
    (hf : st.ctl.failhook = none) (hk : st.ctl.fault = none) :
    (step st (.msg (.modify bidder aid bidId price denom amt))).1.res = .ok ↔
      AcceptModify st.core bidder aid bidId price denom amt :=
  deliver_ok_iff st (.modify bidder aid bidId price denom amt)
    (wf_reach st h) (bankNonneg_reach st h) hf hk

/-- the extra amount charged equals the increase in required reservation, moved from the
    owner to the auction's paying escrow; the bid keeps its id, auction, owner, type,
    denomination and matched flag -/
theorem C11_modify_charges_the_increase (st : State) (h : Reach st) (bidder : Acc) (aid bidId : Nat)
    (price : Dec) (denom : Denom) (amt : Int) (v : AView) (b : Bid)
    (hv : st.core.views[aid]? = some v) (hb : v.bids.find? (·.id == bidId) = some b)
    (hok : (step st (.msg (.modify bidder aid bidId price denom amt))).1.res = .ok) :
    let st' := (step st (.msg (.modify bidder aid bidId price denom amt))).2
    let b' : Bid := { b with price := price, amt := amt }
    let diff := b'.toPaying v.a.payDenom - b.toPaying v.a.payDenom
    0 ≤ diff ∧
    st'.core.bank (.pay aid) v.a.payDenom = st.core.bank (.pay aid) v.a.payDenom + diff ∧
    st'.core.bank (.user bidder) v.a.payDenom = st.core.bank (.user bidder) v.a.payDenom - diff ∧
    ∃ v', st'.core.views[aid]? = some v' ∧ v'.bids = v.bids.map (fun x => if x.id == bidId then b' else x) :=
  modify_effect st bidder aid bidId price denom amt v b (wf_reach st h) hv hb hok

/-- no operation deletes a bid, re-identifies it, or lowers its price or amount (hence
    never lowers what is reserved for it: the reservation is monotone in both) -/
theorem C11_bids_never_removed_or_lowered (st : State) (h : Reach st) (op : Op) (hop : op ≠ .reset)
    (i : Nat) (v : AView) (hv : st.core.views[i]? = some v) :
    ∃ v', (step st op).2.core.views[i]? = some v' ∧
      (∃ more, v'.bids.map Bid.ident = v.bids.map Bid.ident ++ more) ∧
      ∀ b ∈ v.bids, ∃ b' ∈ v'.bids, b'.ident = b.ident ∧ b.price ≤ b'.price ∧ b.amt ≤ b'.amt := by
  obtain ⟨v', h1, h2⟩ := view_step st op hop (wf_reach st h) i v hv
  exact ⟨v', h1, h2.bidsKept, h2.bidsGrow⟩

/-- only by the owner, only while the batch auction is open: if an operation changes the
    price or amount of a recorded bid, the operation is a MsgModifyBid signed by the bid's
    owner for exactly that bid, on an open batch auction -/
theorem C11_changed_only_by_owner (st : State) (h : Reach st) (op : Op) (hop : op ≠ .reset)
    (i : Nat) (v v' : AView) (hv : st.core.views[i]? = some v)
    (hv' : (step st op).2.core.views[i]? = some v') (b b' : Bid) (hb : b ∈ v.bids) (hb' : b' ∈ v'.bids)
    (hid : b'.id = b.id) (hch : b'.price ≠ b.price ∨ b'.amt ≠ b.amt) :
    v.a.status = .started ∧ v.a.type = .batch ∧
    op = .msg (.modify b.bidder i b.id b'.price b.denom b'.amt) :=
  (bids_change_only_by_owner st op hop (wf_reach st h) i v v' hv hv').1 b hb b' hb' hid hch

end Fundraising
