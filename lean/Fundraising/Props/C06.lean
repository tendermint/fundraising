import Fundraising.Proofs.ProgressProofs
import Fundraising.Proofs.FrameProofs
import Fundraising.Proofs.AcceptProofs
import Fundraising.Proofs.WFProofs
/-
  C06 — Fixed-price sales are first-come-first-served against an exact remainder.
-/
namespace Fundraising

/-- accepted exactly when: the auction is open, the bid is at the auction's price in one
    of its two denominations, the bidder is allow-listed with enough allowance left, the unsold
    remainder covers the whole bid (and the bidder can pay the fee and the reservation) -/
theorem C06_fixed_bid_accepted_iff (st : State) (h : Reach st) (bidder : Acc) (aid : Nat)
    (price : Dec) (denom : Denom) (amt : Int)
    (hf : st.ctl.failhook = none) (hk : st.ctl.fault = none) :
    (step st (.msg (.place bidder aid (some .fixed) price denom amt))).1.res = .ok ↔
      AcceptPlace st.core bidder aid .fixed price denom amt :=
  deliver_ok_iff st (.place bidder aid (some .fixed) price denom amt)
    (wf_reach st h) (bankNonneg_reach st h) hf hk

/-- the published remainder is exact: in every reachable state, while a fixed-price
    auction is waiting or open, remainder = offered − sum of accepted bids, and it is never
    negative: the auction can never oversell -/
theorem C06_remainder_exact (st : State) (h : Reach st) (i : Nat) (v : AView)
    (hv : st.core.views[i]? = some v) (hty : v.a.type = .fixed)
    (hs : v.a.status = .standby ∨ v.a.status = .started) :
    v.a.remaining = v.a.sellAmt - soldOf v ∧ 0 ≤ v.a.remaining ∧ soldOf v ≤ v.a.sellAmt := by
  obtain ⟨h1, h2⟩ := ((wf_reach st h).views i v hv).remaining hty hs
  exact ⟨h1, h2, by omega⟩

/-- each accepted bid takes exactly its own quantity off the remainder -/
theorem C06_accepted_bid_decrements (st : State) (bidder : Acc) (aid : Nat) (price : Dec) (denom : Denom)
    (amt : Int) (v v' : AView) (hv : st.core.views[aid]? = some v)
    (hok : (step st (.msg (.place bidder aid (some .fixed) price denom amt))).1.res = .ok)
    (hv' : (step st (.msg (.place bidder aid (some .fixed) price denom amt))).2.core.views[aid]? = some v') :
    ∃ b, v'.bids = v.bids ++ [b] ∧ b.price = price ∧ b.denom = denom ∧ b.amt = amt ∧ b.bidder = bidder ∧
      v'.a.remaining = v.a.remaining - b.toSelling v.a.payDenom := by
  obtain ⟨b, h1, _, h3, h4, h5, h6, _, h8⟩ := fixed_bid_flag st bidder aid price denom amt v v' hv hok hv'
  exact ⟨b, h1, h3, h4, h5, h6, h8⟩

/-- earlier bids are never displaced or scaled down by later ones: no operation removes a
    bid of a fixed-price auction or changes its price or amount (modification is only possible
    in batch auctions) -/
theorem C06_accepted_bids_are_final (st : State) (h : Reach st) (op : Op) (hop : op ≠ .reset)
    (i : Nat) (v v' : AView) (hv : st.core.views[i]? = some v)
    (hv' : (step st op).2.core.views[i]? = some v') (hty : v.a.type = .fixed) :
    ∀ b ∈ v.bids, ∃ b' ∈ v'.bids, b'.ident = b.ident ∧ b'.price = b.price ∧ b'.amt = b.amt := by
  intro b hb
  obtain ⟨v'', h1, h2⟩ := view_step st op hop (wf_reach st h) i v hv
  rw [hv'] at h1; cases h1
  obtain ⟨b', hb', hid, _, _⟩ := h2.bidsGrow b hb
  refine ⟨b', hb', hid, ?_⟩
  have hch := (bids_change_only_by_owner st op hop (wf_reach st h) i v v' hv hv').1 b hb b' hb'
    (by have := congrArg (fun x => x.2.1) hid; simpa [Bid.ident] using this)
  by_cases hp : b'.price = b.price
  · by_cases ha : b'.amt = b.amt
    · exact ⟨hp, ha⟩
    · exact absurd (hch (Or.inr ha)).2.1 (by rw [hty]; simp)
  · exact absurd (hch (Or.inl hp)).2.1 (by rw [hty]; simp)

/-- at the close every bidder receives exactly the sum of their accepted bids -/
theorem C06_close_allocates_accepted_bids (a : Auction) (bids : List Bid) :
    (calcFixed a bids).alloc =
      (biddersOf bids).map (fun u => (u, sumOver bids u (·.toSelling a.payDenom))) := rfl

end Fundraising
