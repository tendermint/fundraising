import Fundraising.Spec.Clearing
import Fundraising.Proofs.MatchLemmas
/-
  C03 — Batch clearing price is the lowest bid price whose capped demand fits supply.

  The theorems are stated for EVERY arrangement of the bids that is a permutation sorted by
  price, descending (`Arrangement`): Go's `sort.Slice` with the module's non-strict comparator
  fixes the order inside one price level only up to implementation, so nothing may
  depend on it.  `calcBatch` (the executable model) uses one such arrangement
  (`sortBids_arrangement`).
-/
namespace Fundraising

/-- the arrangement the executable model uses is admissible -/
theorem C03_sortBids_admissible (bids : List Bid) : Arrangement bids (sortBids bids) :=
  sortBids_arrangement bids

/-- at every positive price the sweep succeeds exactly when capped demand fits the supply,
    whatever the order inside the price levels -/
theorem C03_fits_iff (a : Auction) (bids sorted : List Bid) (allowed : List Allowed) (p : Dec)
    (hw : BookWF a bids allowed) (hs : Arrangement bids sorted) (hp : 0 < p) :
    (∃ acc, matchAt p sorted a.sellAmt allowed = .fit acc) ↔ demand bids allowed p ≤ a.sellAmt :=
  matchAt_fits_iff a bids sorted allowed p hw hs hp

/-- capped demand can only fall when the price rises (what makes binary search sound) -/
theorem C03_demand_antitone (a : Auction) (bids : List Bid) (allowed : List Allowed) (p q : Dec)
    (hw : BookWF a bids allowed) (hp : 0 < p) (hpq : p ≤ q) :
    demand bids allowed q ≤ demand bids allowed p :=
  demand_antitone a bids allowed p q hw hp hpq

/-- every order book either has a clearing price or no price fits -/
theorem C03_cases (bids : List Bid) (allowed : List Allowed) (S : Int) :
    NoPriceFits bids allowed S ∨ ∃ p, IsClearingPrice bids allowed S p :=
  exists_min_price (fun p => demand bids allowed p ≤ S) bids

/-- C03.  The settlement computation never panics on a well-formed book and
    * if no recorded price fits: nothing is sold, everything is refunded;
    * otherwise the matched price is the lowest fitting recorded price, the amount sold
      is the capped demand at that price, every bidder is allocated exactly their capped
      demand, and if that demand is zero everything is refunded. -/
theorem C03_clearing (a : Auction) (bids sorted : List Bid) (allowed : List Allowed)
    (hw : BookWF a bids allowed) (hs : Arrangement bids sorted) :
    ∃ mi, calcBatchWith sorted a bids allowed = some mi ∧
      (NoPriceFits bids allowed a.sellAmt →
          mi.total = 0 ∧ mi.matchedLen = 0 ∧
          ∀ u ∈ biddersOf bids, lookupAmt mi.alloc u = 0 ∧
            lookupAmt mi.refund u = reservedOf bids a.payDenom u) ∧
      (∀ p, IsClearingPrice bids allowed a.sellAmt p →
          mi.price = p ∧ mi.total = demand bids allowed p ∧
          (∀ u ∈ biddersOf bids, lookupAmt mi.alloc u = cappedDemand bids allowed u p) ∧
          (demand bids allowed p = 0 →
            ∀ u ∈ biddersOf bids, lookupAmt mi.refund u = reservedOf bids a.payDenom u)) := by
  rcases calcBatchWith_cases a bids sorted allowed hw hs with ⟨hno, hc⟩ | ⟨p0, acc, hcl, hp0, hm, hc⟩
  · exact ⟨_, hc,
      fun _ => ⟨rfl, rfl, fun u hu => ⟨lookupAmt_noMatch_alloc a hu, lookupAmt_noMatch_refund a hu⟩⟩,
      fun p hcp => absurd hno hcp.not_noPriceFits⟩
  · have hsw := matchAt_swept a bids sorted allowed p0 acc hw hs hp0 hm
    refine ⟨_, hc, fun hno => absurd hno hcl.not_noPriceFits, fun p hcp => ?_⟩
    have e : p = p0 := hcp.unique hcl
    subst e
    refine ⟨hsw.price, hsw.total, fun u hu => by rw [lookupAmt_match_alloc a acc hu, hsw.alloc u],
      fun hd0 u hu => ?_⟩
    -- no demand at all: nobody is allocated anything, so nobody pays
    have hcd : cappedDemand bids allowed u p = 0 :=
      isum_map_eq_zero _ (biddersOf bids)
        (fun v _ => cappedDemand_nonneg bids allowed hw.amts hw.caps v p (Int.le_of_lt hp0)) hd0 u hu
    rw [lookupAmt_match_refund a acc hu, hsw.payZero u (by rw [hsw.alloc u, hcd]), Int.sub_zero]

/-- the executable model's instance -/
theorem C03_clearing_model (a : Auction) (bids : List Bid) (allowed : List Allowed)
    (hw : BookWF a bids allowed) :
    ∃ mi, calcBatch a bids allowed = some mi ∧
      (NoPriceFits bids allowed a.sellAmt → mi.total = 0) ∧
      (∀ p, IsClearingPrice bids allowed a.sellAmt p →
          mi.price = p ∧ mi.total = demand bids allowed p ∧
          ∀ u ∈ biddersOf bids, lookupAmt mi.alloc u = cappedDemand bids allowed u p) := by
  obtain ⟨mi, h1, h2, h3⟩ := C03_clearing a bids (sortBids bids) allowed hw (sortBids_arrangement bids)
  exact ⟨mi, h1, fun h => (h2 h).1, fun p hp => ⟨(h3 p hp).1, (h3 p hp).2.1, (h3 p hp).2.2.1⟩⟩

/-! ### non-vacuity: a concrete book meets the hypotheses and clears; it is the regression witness
    of the defect repaired by the `fix:` commit (a dust bid on top of the book) -/

def exAuction : Auction :=
  { id := 0, type := .batch, auctioneer := 0, sellDenom := 0, sellAmt := 1000, payDenom := 1,
    startPrice := PREC, startTime := 0, endTimes := [10], schedules := [], status := .started,
    minBid := 1, maxExt := 0, rate := PREC }
def exAllowed : List Allowed := [⟨1, 1000⟩, ⟨2, 1000⟩]
/-- worth bid of 1 coin at price 10 (converts to 0 coins) above a 100-coin bid at price 5 -/
def exBids : List Bid :=
  [ { auction := 0, id := 1, bidder := 1, type := .worth, price := 10 * PREC, denom := 1, amt := 1, matched := false },
    { auction := 0, id := 2, bidder := 2, type := .many, price := 5 * PREC, denom := 0, amt := 100, matched := false } ]

example : BookWF exAuction exBids exAllowed := by
  constructor <;> simp [exBids, exAllowed, exAuction, lookupAllowed, PREC] <;> decide

example : (calcBatch exAuction exBids exAllowed).map (fun mi => (mi.price, mi.total, mi.alloc)) =
    some (5 * PREC, 100, [(1, 0), (2, 100)]) := by decide

end Fundraising
