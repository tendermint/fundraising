import Fundraising.Proofs.FrameProofs
import Fundraising.Proofs.AcceptProofs
import Fundraising.Proofs.WFProofs
import Fundraising.Props.C08
import Fundraising.Props.C01
/-
  C12 — Only the auctioneer can cancel, only before opening, with a full refund.
-/
namespace Fundraising

/-- accepted exactly when signed by the auction's auctioneer while it is still waiting to
    open — for every signer, every auction status, every moment relative to the start time -/
theorem C12_cancel_accepted_iff (st : State) (h : Reach st) (signer : Acc) (aid : Nat)
    (hf : st.ctl.failhook = none) (hk : st.ctl.fault = none) :
    (step st (.msg (.cancel signer aid))).1.res = .ok ↔
      (validAcc signer = true ∧
       ∃ v, st.core.views[aid]? = some v ∧ v.a.auctioneer = signer ∧ v.a.status = .standby) := by
  rw [deliver_ok_iff st (.cancel signer aid) (wf_reach st h) (bankNonneg_reach st h) hf hk]
  exact ⟨fun a => ⟨a.signerOk, a.exists_⟩, fun ⟨a, b⟩ => ⟨a, b⟩⟩

/-- what cancelling does: the auction becomes cancelled, the published remainder is
    zeroed, the escrow's whole selling-denomination balance (the offered amount plus anything
    third parties sent there) is returned to the auctioneer, the escrow is empty -/
theorem C12_cancel_effect (st : State) (h : Reach st) (op : Op) (hop : op ≠ .reset)
    (i : Nat) (v v' : AView) (hv : st.core.views[i]? = some v)
    (hv' : (step st op).2.core.views[i]? = some v')
    (hs : v.a.status ≠ .cancelled) (hs' : v'.a.status = .cancelled) :
    op = .msg (.cancel v.a.auctioneer i) ∧ v.a.status = .standby ∧
    (v.a.type = .fixed → v'.a.remaining = 0) ∧
    (step st op).2.core.bank (.sell i) v.a.sellDenom = 0 ∧
    (step st op).2.core.bank (.user v.a.auctioneer) v.a.sellDenom =
      st.core.bank (.user v.a.auctioneer) v.a.sellDenom + st.core.bank (.sell i) v.a.sellDenom :=
  cancelled_only_by_cancel st op hop (wf_reach st h) i v v' hv hv' hs hs'

/-- the refund is at least the entire offered amount -/
theorem C12_refund_covers_offer (st : State) (h : Reach st) (i : Nat) (v : AView)
    (hv : st.core.views[i]? = some v) (hs : v.a.status = .standby) :
    v.a.sellAmt ≤ st.core.bank (.sell i) v.a.sellDenom := by
  have := (C01_escrow_covered st h i v hv).sell
  simpa [owedSell, hs] using this

/-- once an auction has opened nobody can cancel it; cancelled is permanent -/
theorem C12_opened_never_cancelled (st : State) (h : Reach st) (op : Op) (hop : op ≠ .reset)
    (i : Nat) (v : AView) (hv : st.core.views[i]? = some v) (hs : v.a.status ≠ .standby) :
    ∃ v', (step st op).2.core.views[i]? = some v' ∧
      (v'.a.status = .cancelled ↔ v.a.status = .cancelled) := by
  obtain ⟨v', h1, h2⟩ := C08_status_only_forward st h op hop i v hv
  refine ⟨v', h1, fun hc => ?_, fun hc => ?_⟩
  · -- the only edge into `cancelled` that is not a loop leaves `standby`
    rw [hc] at h2
    cases hv0 : v.a.status with
    | standby => exact absurd hv0 hs
    | cancelled => rfl
    | _ => rw [hv0] at h2; cases h2
  · rw [hc] at h2
    exact C08_terminal_is_permanent _ (Or.inr rfl) _ h2

end Fundraising
