import Fundraising.Proofs.LedgerProofs
import Fundraising.Proofs.AccountingProofs
import Fundraising.Props.C01
import Fundraising.Proofs.ProgressProofs
import Fundraising.Proofs.WFProofs
/-
  C02 — Operations are zero-sum and every participant ends with exactly their due.
-/
namespace Fundraising

/-- no coins created, destroyed or stranded.  After every successful module operation
    every balance is the old balance plus the net of the bank calls the module made … -/
theorem C02_ledger (st : State) (op : Op) (hop : op.isModuleOp = true)
    (hok : (step st op).1.res = .ok) (a : Addr) (d : Denom) :
    (step st op).2.core.bank a d = st.core.bank a d + ((xfersOf (step st op).1.effs).map (·.delta a d)).sum :=
  ledger_pointwise st op hop hok a d

/-- … each of which is zero-sum over any set of accounts containing both ends … -/
theorem C02_transfer_zero_sum (t : Transfer) (L : List Addr) (hnd : L.Nodup) (hs : t.src ∈ L) (hd : t.dst ∈ L)
    (d : Denom) : (L.map (fun a => t.delta a d)).sum = 0 :=
  LedgerInv.delta_zero_sum t L hnd hs hd d

/-- … and a failed operation moves nothing. -/
theorem C02_failed_moves_nothing (st : State) (op : Op) (hop : op.isModuleOp = true)
    (h : (step st op).1.res ≠ .ok) : (step st op).2.core.bank = st.core.bank :=
  failed_op_no_transfer st op hop h

/-- the only amounts that leave a user's account: in a successful module operation every
    transfer whose source is a user account is (a) the advertised creation fee or the offered
    coin, from the auctioneer who signed the creation, (b) the advertised bid fee or the
    bid's reservation, from the bidder who signed the bid, (c) the increase of the
    reservation, from the bidder who signed the modification.  Cancels, allow-list calls,
    parameter changes and blocks debit no user account at all. -/
theorem C02_user_debits (st : State) (op : Op) (hop : op.isModuleOp = true)
    (hok : (step st op).1.res = .ok) (x : Transfer) (hx : x ∈ xfersOf (step st op).1.effs)
    (u : Acc) (hu : x.src = .user u) :
    (∃ m, op = .msg (.create m) ∧ u = m.auctioneer ∧
        (x = ⟨.pool, .user u, .pool, st.core.params.creationFee⟩ ∨
         x = ⟨.send, .user u, .sell st.core.views.length, [⟨m.sellDenom, m.sellAmt⟩]⟩)) ∨
    (∃ aid t price denom amt, op = .msg (.place u aid (some t) price denom amt) ∧
        (x = ⟨.pool, .user u, .pool, st.core.params.bidFee⟩ ∨ (x.kind = .send ∧ x.dst = .pay aid))) ∨
    (∃ aid bidId price denom amt, op = .msg (.modify u aid bidId price denom amt) ∧
        x.kind = .send ∧ x.dst = .pay aid) := by
  rcases step_transfers st op hop hok with ⟨m, rfl, h⟩ | ⟨signer, aid, v, -, -, -, h⟩ |
    ⟨bidder, aid, t, price, denom, amt, v, rfl, -, h⟩ |
    ⟨bidder, aid, bidId, price, denom, amt, d, y, rfl, -, h⟩ | h | ⟨t, rfl⟩
  · rw [h] at hx
    simp only [List.mem_cons, List.not_mem_nil, or_false] at hx
    rcases hx with rfl | rfl <;> cases hu
    · exact Or.inl ⟨m, rfl, rfl, Or.inl rfl⟩
    · exact Or.inl ⟨m, rfl, rfl, Or.inr rfl⟩
  · -- a cancel pays out of the selling escrow
    rw [h, List.mem_singleton] at hx
    subst hx
    cases hu
  · rw [h] at hx
    simp only [placeXfers, List.mem_cons, List.not_mem_nil, or_false] at hx
    rcases hx with rfl | rfl <;> cases hu
    · exact Or.inr (Or.inl ⟨aid, t, price, denom, amt, rfl, Or.inl rfl⟩)
    · exact Or.inr (Or.inl ⟨aid, t, price, denom, amt, rfl, Or.inr ⟨rfl, rfl⟩⟩)
  · rw [h, List.mem_singleton] at hx
    subst hx
    cases hu
    exact Or.inr (Or.inr ⟨aid, bidId, price, denom, amt, rfl, rfl, rfl⟩)
  · rw [h] at hx
    cases hx
  · rcases block_transfers st t x hx with ⟨i, _, hsrc, _⟩ | ⟨i, hsrc, _⟩
    · rcases hsrc with h | h | h <;> (rw [h] at hu; cases hu)
    · rw [hsrc] at hu; cases hu

/-- nothing is left in escrow once an auction is finished or cancelled (history without
    third-party transfers into escrows; with them, what is left is exactly those coins —
    C01_escrow_covered) -/
theorem C02_terminal_escrows_empty (ops : List Op) (h : NoEscrowGifts ops) (i : Nat) (v : AView)
    (hv : (run {} ops).core.views[i]? = some v)
    (hs : v.a.status = .finished ∨ v.a.status = .cancelled) (d : Denom) :
    (run {} ops).core.bank (.sell i) d = 0 ∧ (run {} ops).core.bank (.pay i) d = 0 ∧
    (run {} ops).core.bank (.vest i) d = 0 := by
  have hx := (C01_escrow_exact ops h).1 i v hv
  have h1 := hx.sell d; have h2 := hx.pay d; have h3 := hx.vest d
  have e1 : owedSell v = 0 := by unfold owedSell; rcases hs with hs | hs <;> simp [hs]
  have e2 : owedPay v = 0 := by unfold owedPay; rcases hs with hs | hs <;> simp [hs]
  have e3 : owedVest v = 0 := by unfold owedVest; rcases hs with hs | hs <;> simp [hs]
  rw [e1] at h1; rw [e2] at h2; rw [e3] at h3
  exact ⟨by simpa using h1, by simpa using h2, by simpa using h3⟩

/-- blocks pay out of escrows only (bidders' allocations and refunds, the auctioneer's unsold
    coins and proceeds, paying → vesting escrow of the same auction) -/
theorem C02_blocks_pay_from_escrows (st : State) (t : Int) :
    ∀ x ∈ xfersOf (step st (.block t)).1.effs,
      (∃ i u, (x.src = .sell i ∨ x.src = .pay i ∨ x.src = .vest i) ∧ x.dst = .user u) ∨
      (∃ i, x.src = .pay i ∧ x.dst = .vest i) :=
  block_transfers st t

/-- final accounting over the whole history (ledger form): in a history without resets
    and third-party transfers into escrows, an escrow's balance is exactly the net of the
    module's own bank calls … -/
theorem C02_escrow_balance_is_ledger (ops : List Op) (hr : Op.reset ∉ ops) (hg : NoEscrowGifts ops)
    (a : Addr) (ha : (∃ i, a = .sell i) ∨ (∃ i, a = .pay i) ∨ (∃ i, a = .vest i)) (d : Denom) :
    (run {} ops).core.bank a d = netFlow (ledgerOf ops) a d := by
  rw [AccountingInv.escrow_balance_from ops {} hr hg a ha d]
  show (0 : Int) + netFlow (ledgerOf ops) a d = _
  omega

/-- … so once an auction is finished or cancelled, everything that ever entered its three
    escrows has left them again … -/
theorem C02_final_accounting (ops : List Op) (hr : Op.reset ∉ ops) (hg : NoEscrowGifts ops)
    (i : Nat) (v : AView) (hv : (run {} ops).core.views[i]? = some v)
    (hs : v.a.status = .finished ∨ v.a.status = .cancelled) (d : Denom) :
    netFlow (ledgerOf ops) (.sell i) d = 0 ∧ netFlow (ledgerOf ops) (.pay i) d = 0 ∧
    netFlow (ledgerOf ops) (.vest i) d = 0 := by
  rw [← C02_escrow_balance_is_ledger ops hr hg (.sell i) (Or.inl ⟨i, rfl⟩) d,
    ← C02_escrow_balance_is_ledger ops hr hg (.pay i) (Or.inr (Or.inl ⟨i, rfl⟩)) d,
    ← C02_escrow_balance_is_ledger ops hr hg (.vest i) (Or.inr (Or.inr ⟨i, rfl⟩)) d]
  exact C02_terminal_escrows_empty ops hg i v hv hs d

/-- … and over the whole history coins only ever moved: from the signer of a message to the
    community pool (fees) or to an escrow (reservations); from an escrow to a user account
    (allocations, refunds, unsold coins, proceeds, instalments); from a paying escrow to the
    vesting escrow of the same auction -/
theorem C02_ledger_shapes (ops : List Op) :
    ∀ t ∈ ledgerOf ops,
      (∃ u, t.src = .user u ∧ (t.dst = .pool ∨ (∃ i, t.dst = .sell i) ∨ (∃ i, t.dst = .pay i))) ∨
      (∃ i u, (t.src = .sell i ∨ t.src = .pay i ∨ t.src = .vest i) ∧ t.dst = .user u) ∨
      (∃ i, t.src = .pay i ∧ t.dst = .vest i) :=
  AccountingInv.ledger_shapes_from ops {}

/-- everyone gets their due at a batch settlement: in the block that settles auction `i`,
    the coins leaving its selling and paying escrows are, in this order, exactly: each bidder's
    allocation (the non-zero ones, ascending bidder order), the unsold rest of the selling escrow to
    the auctioneer, each bidder's refund — by `calcBatchWith`, the reservation minus what the
    allocation costs at the matched price, i.e. the unused part of the reservation — and the
    proceeds (everything left in the paying escrow) to the auctioneer, or to the vesting escrow when
    there is a schedule -/
theorem C02_batch_settlement_pays_everyone (st : State) (h : Reach st) (t : Int)
    (hok : (step st (.block t)).1.res = .ok)
    (i : Nat) (v v' : AView) (mi : MInfo) (hv : st.core.views[i]? = some v)
    (hv' : (step st (.block t)).2.core.views[i]? = some v')
    (hs : v.a.status = .started) (hty : v.a.type = .batch)
    (hmi : calcBatch v.a v.bids v.allowed = some mi) (hsettled : v'.a.status ≠ .started) :
    ∃ rest proceeds,
      (xfersOf (step st (.block t)).1.effs).filter (fun x => x.src = .sell i ∨ x.src = .pay i) =
        ((mi.alloc.filter (fun p => p.2 ≠ 0)).map
            (fun p => (⟨.io, .sell i, .user p.1, [⟨v.a.sellDenom, p.2⟩]⟩ : Transfer)))
        ++ [⟨.send, .sell i, .user v.a.auctioneer, rest⟩]
        ++ ((mi.refund.filter (fun p => p.2 ≠ 0)).map
            (fun p => (⟨.io, .pay i, .user p.1, [⟨v.a.payDenom, p.2⟩]⟩ : Transfer)))
        ++ [proceeds] ∧
      proceeds.src = .pay i ∧
      proceeds.dst = (if v.a.schedules.isEmpty then .user v.a.auctioneer else .vest i) :=
  batch_settlement_transfers st t hok i v v' mi hv hv' hs hty
    (fun j w hw => ((wf_reach st h).views j w hw).id) hmi hsettled

end Fundraising
