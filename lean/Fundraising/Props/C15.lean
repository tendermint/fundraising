import Fundraising.Proofs.GenesisProofs
import Fundraising.Proofs.WFProofs
import Fundraising.Tables.Schema
import Fundraising.Generated.Tables
/-
  C15 — Exported genesis validates, re-imports to the same state and behaves the same.
  (The model follows the code after the `fix:` commits to GenesisState.Validate,
  BaseAuction.Validate, InitGenesis (MatchedBidsLen) and AddAllowedBidders.)
-/
namespace Fundraising
open Fundraising.Tables Fundraising.Generated

/-- the genesis exported from ANY reachable state passes the module's own validation -/
theorem C15_export_validates (st : State) (h : Reach st) :
    validateGenesis (exportGenesis st.core) = true :=
  export_validates st.core (wf_reach st h)

/-- importing it rebuilds every collection exactly: auctions with their ids, allow-lists,
    bids with their ids and the per-auction bid counter, vesting queues, and the matched-bids
    counter (not exported; rebuilt from the flags); parameters are carried over -/
theorem C15_import_export (st : State) (h : Reach st) :
    initGenesis (exportGenesis st.core) = some st.core.views ∧
    (exportGenesis st.core).params = st.core.params :=
  ⟨import_export st.core (wf_reach st h), rfl⟩

/-- the whole round trip (export → validate → wipe → import) is the identity on reachable
    states … -/
theorem C15_round_trip_identity (st : State) (h : Reach st) :
    step st .genesis = ({ res := .ok }, st) :=
  step_genesis st (wf_reach st h)

/-- … hence the re-imported chain evolves identically to the original under ANY subsequent
    blocks and messages -/
theorem C15_continues_identically (st : State) (h : Reach st) (ops : List Op) :
    run (step st .genesis).2 ops = run st ops := by
  rw [C15_round_trip_identity st h]

/-! ### source level: the regenerated genesis table -/

/-- every collection of the keeper is either exported and imported, or (the three counters)
    rebuilt by InitGenesis; and every duplicate check of `GenesisState.Validate` is keyed by
    the full key of its collection -/
theorem C15_collections_covered :
    collections.all (fun c =>
      c.imported && (c.exported || ["MatchedBidsLen", "BidSeq", "AuctionSeq"].contains c.name)
      && c.dupKeyFields == c.keyFields) = true := by decide +kernel

theorem C15_collections_known :
    collections.map (·.name) =
      ["Params", "MatchedBidsLen", "AllowedBidder", "VestingQueue", "BidSeq", "Bid", "AuctionSeq", "Auction"] := rfl

/-! regression witness of the repaired defects: two allowed bidders in one auction, and an
    auction extended past its first release time, export to a genesis that validates -/
def exTwoBidders : List Op :=
  [ .fund 0 5 1000000000, .fund 0 0 1000,
    .msg (.create { auctioneer := 0, type := .batch, startPrice := PREC, minBid := PREC, sellDenom := 0,
                    sellAmt := 1000, payDenom := 1, maxExt := 1, rate := PREC, startTime := 1700000100,
                    endTime := 1700001000, schedules := [⟨1700002000, PREC⟩] }),
    .kadd 0 [⟨0, 1, 1000⟩, ⟨0, 2, 500⟩], .block 1700000100, .block 1700001000 ]

example : ((run {} exTwoBidders).core.views[0]?.map (fun v => (v.a.endTimes, v.allowed.length))) =
    some ([1700001000, 1700087400], 2) := by decide
example : validateGenesis (exportGenesis (run {} exTwoBidders).core) = true := by decide

end Fundraising
