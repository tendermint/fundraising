import Fundraising.Tables.Schema
import Fundraising.Generated.Tables
/-
  C20 — The shipped node binary starts and wires every message and query correctly.

  Decided here: the logic part — binding resolution — over the table re-extracted from
  `x/fundraising/module/autocli.go` and the `.proto` files on every run.  The resolution
  rule is the one of cosmossdk.io/client/v2@v2.0.0-beta.4 `autocli/flag/builder.go`
  (`addMessageFlags`): a positional argument resolves iff `Fields().ByName(ProtoField)`
  is non-nil; `varargs`/`optional` only in last position and not both; a failing binding
  makes `NewRootCmd` panic, i.e. the binary does not start.
  Not decidable in Lean (carried by bin/c20.py against the binary built from the working
  tree): cobra/autocli runtime behaviour, that the process starts, `--help` of every
  command, the generated transaction JSON.
-/
namespace Fundraising
open Fundraising.Tables Fundraising.Generated

/-- every registered command binds to an rpc that exists and to fields that exist in its
    request message; placeholders in `Use` match the positional arguments; no `repeated`
    field is bound as a (single-valued) positional argument -/
theorem C20_bindings_resolve : cliCmds.all (·.resolves rpcs) = true := by
  -- the usage lines are read as characters, not decoded from bytes (Tables/Chars.lean)
  simp -index only [cliCmds, List.all_cons, List.all_nil, CliCmd.resolves, usePlaceholders, usePlaceholderNames,
    List.map_cons, List.map_nil, String.toList_ofList]
  decide +kernel

/-- every rpc of both services has a command entry (possibly `skip`), so autocli generates
    no unnamed default for it — `Msg/AddAllowedBidder`, whose entry depends on the build, is
    excepted here and is the subject of `C20_conditional_commands` -/
theorem C20_every_rpc_has_command :
    rpcs.all (fun r => cliCmds.any (fun c => c.service == r.service && c.rpc == r.rpc)
      || (r.service == "Msg" && r.rpc == "AddAllowedBidder")) = true := by decide +kernel

/-- only `UpdateParams` (authority-gated) is skipped -/
theorem C20_only_update_params_skipped :
    (cliCmds.filter (·.skip)).map (·.rpc) = ["UpdateParams"] := rfl

/-- the only command that depends on a build setting is the testing-only AddAllowedBidder -/
theorem C20_conditional_commands :
    (cliCmds.filter (·.conditional)).map (·.rpc) = ["AddAllowedBidder"] := rfl

/-- what the user types is what is sent: no command configures a flag with a default value (which
    would be put into the request although the user typed nothing), every configured flag names a
    field of the request, and no command uses an option this table does not model -/
theorem C20_flags_faithful : cliCmds.all (·.flagsFaithful rpcs) = true := by decide +kernel

/-- the model of the binary's start-up: it starts iff every binding resolves -/
def binaryStarts (cmds : List CliCmd) (rs : List RpcDesc) : Bool := cmds.all (·.resolves rs)

theorem C20_binary_starts : binaryStarts cliCmds rpcs = true := C20_bindings_resolve

/-- regression witness of the defect repaired by the `fix:` commit: the old binding of
    `GetAuction` to a field named `id` does not resolve -/
example : (CliCmd.resolves
    { service := "Query", rpc := "GetAuction", use := "get-auction [id]", skip := false,
      positional := ["id"], varargs := [false], optional := [false], conditional := false } rpcs) = false := by
  decide +kernel

/-- regression witness of the second repaired defect: binding the repeated field
    `vesting_schedules` positionally (exactly one schedule could ever be sent) does not resolve -/
example : (CliCmd.resolves
    { service := "Msg", rpc := "CreateFixedPriceAuction",
      use := "create-fixed-price-auction [start-price] [selling-coin] [paying-coin-denom] [vesting-schedules] [start-time] [end-time]",
      skip := false,
      positional := ["start_price", "selling_coin", "paying_coin_denom", "vesting_schedules", "start_time", "end_time"],
      varargs := [false, false, false, false, false, false], optional := [false, false, false, false, false, false],
      conditional := false } rpcs) = false := by
  simp -index only [CliCmd.resolves, usePlaceholders, usePlaceholderNames, List.map_cons, List.map_nil,
    String.toList_ofList]
  decide +kernel

/-- witness: a `DefaultValue` on the `is_matched` filter of `list-bid` (every listing typed
    without the flag would silently exclude matched bids) is not faithful -/
example : (CliCmd.flagsFaithful
    { service := "Query", rpc := "ListBid", use := "list-bid", skip := false, positional := [], varargs := [], optional := [],
      conditional := false, flagFields := ["is_matched"], flagDefaults := ["is_matched"] } rpcs) = false := by
  decide +kernel

end Fundraising
