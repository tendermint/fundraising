import Fundraising.Tables.Schema
import Fundraising.Generated.Tables
import Fundraising.Tables.Chars
import Fundraising.Proofs.LedgerProofs
import Fundraising.Proofs.TotalSim
import Fundraising.Proofs.HookProofs
/-
  C17 — Every hook fires once with the real values and can veto the operation.

  (a) Source level, decided over the tables re-extracted from types/hooks.go,
      keeper/hooks.go, types/expected_keepers.go and the keeper on every run: all ten
      dispatchers and all ten keeper wrappers have the uniform shape (loop over every
      listener / nil-guard, same-named callee, the caller's arguments in order, error
      returned), every call site in the keeper returns the hook's error, `Before…` hooks
      precede the `Set` they announce and `After…` hooks follow it.
  (b) Model level: what the uniform dispatcher does for ANY number of listeners and any
      position of a failing one (`dispatchTo`), and how an operation reacts (`runAtomic`).
  (c) Op level: each operation that offers a hook calls it exactly once per listener with the
      values it then stores, and a veto at any position fails the operation with nothing
      committed.  The differential run (hooks focus) compares the ordered `H` lines incl.
      arguments with the real keeper's.
-/
namespace Fundraising
open Fundraising.Tables Fundraising.Generated

/-! ### (a) the source tables -/

theorem C17_all_dispatchers_uniform : dispatchers.all (·.uniform) = true := by
  simp [dispatchers, Forwarder.uniform]
theorem C17_all_wrappers_uniform : keeperWrappers.all (·.uniform) = true := by
  simp [keeperWrappers, Forwarder.uniform]

/-- dispatchers and wrappers exist for exactly the methods of the interface, with the
    interface's parameter lists -/
theorem C17_dispatchers_cover_interface :
    dispatchers.map (fun d => (d.name, d.params)) = hookInterface.map (fun h => (h.name, h.params)) ∧
    keeperWrappers.map (fun d => (d.name, d.params)) = hookInterface.map (fun h => (h.name, h.params)) :=
  ⟨rfl, rfl⟩

/-- every call site in the keeper returns the hook's error to its caller -/
theorem C17_sites_return_error : hookSites.all (·.errReturned) = true := by decide +kernel

/-- every hook of the interface is offered by at least one keeper operation -/
theorem C17_every_hook_has_site :
    hookInterface.all (fun h => hookSites.any (fun s => s.hook == h.name)) = true := by decide +kernel

/-- a `Before…` hook is called before the change it announces is written; an `After…` hook
    after it -/
theorem C17_before_commit :
    hookSites.all (fun s =>
      if s.hook.startsWith "Before" then
        match s.nextSetIndex with | some n => decide (s.stmtIndex < n) | none => false
      else
        match s.prevSetIndex with | some n => decide (n < s.stmtIndex) | none => false) = true := by
  simp -index only [hookSites, List.all_cons, List.all_nil, startsWith_eq_isPrefixOf, String.toList_ofList]
  decide +kernel

/-! ### (b) the dispatcher, for any number of listeners -/

/-- all listeners succeed ⇒ each is called exactly once, in registration order, with the
    caller's arguments, and nothing else happens -/
theorem C17_dispatch_all_once (c c' : Ctx) (name : String) (args : List String)
    (h : c.hook name args = .ok c') :
    c'.s = c.s ∧ c'.effs = c.effs ++ (List.range c.ctl.listeners).map (fun i => Eff.hook i name args) :=
  let ⟨a, _, _, d⟩ := hook_ok h
  ⟨a, d⟩

theorem C17_dispatch_succeeds (c : Ctx) (name : String) (args : List String)
    (hf : c.ctl.failhook = none) : ∃ c', c.hook name args = .ok c' :=
  hook_of_no_fail c name args hf

/-- listener `j` fails ⇒ the dispatcher returns its error; listeners before `j` were called
    exactly once, `j` once, none after -/
theorem dispatchTo_veto (name : String) (args : List String) (pre post : List Nat) (j : Nat) (c : Ctx)
    (hj : c.ctl.failhook = some (name, j)) (hpre : j ∉ pre) :
    dispatchTo name args (pre ++ j :: post) c =
      .error ⟨.reject, c.effs ++ (pre ++ [j]).map (fun i => Eff.hook i name args)⟩ := by
  induction pre generalizing c with
  | nil =>
    simp [dispatchTo, hj, Ctx.fail]
  | cons i pre ih =>
    have hi : i ≠ j := fun e => hpre (by simp [e])
    have hne : c.ctl.failhook ≠ some (name, i) := by
      rw [hj]; intro e; exact hi (by injection e with e; injection e with _ e; exact e.symm)
    simp only [List.cons_append, dispatchTo, hne, if_false]
    have := ih { c with effs := c.effs ++ [Eff.hook i name args] } hj
      (fun h => hpre (List.mem_cons_of_mem _ h))
    rw [this]
    simp [List.append_assoc]

theorem range_split (j n : Nat) (h : j < n) :
    List.range n = List.range j ++ j :: List.range' (j + 1) (n - (j + 1)) := by
  have e : n = j + ((n - (j + 1)) + 1) := by omega
  conv => lhs; rw [e]
  rw [List.range_eq_range', List.range_eq_range', ← List.range'_append_1, List.range'_succ]
  simp

theorem C17_dispatch_veto (c : Ctx) (name : String) (args : List String) (j : Nat)
    (hj : c.ctl.failhook = some (name, j)) (hlt : j < c.ctl.listeners) :
    c.hook name args =
      .error ⟨.reject, c.effs ++ (List.range (j + 1)).map (fun i => Eff.hook i name args)⟩ := by
  unfold Ctx.hook
  rw [range_split j _ hlt, dispatchTo_veto name args _ _ j c hj (by simp)]
  simp [List.range_succ]

/-- a message-triggered operation whose hook is vetoed fails and commits nothing -/
theorem C17_veto_reverts (st : State) (recover : Bool) (f : Ctx → M Ctx) (e : Fail)
    (h : f { s := st.core, ctl := st.ctl } = .error e) :
    (runAtomic st recover f).2.core = st.core ∧ (runAtomic st recover f).1.res ≠ .ok := by
  rcases runAtomic_cases st recover f with ⟨c, hc, _⟩ | ⟨e', _, h2, h3⟩
  · rw [h] at hc; cases hc
  · exact ⟨by rw [h2], h3⟩

/-! ### (c) every operation that offers a hook

An operation starts from an empty log, so the hook entries of its log are those its handler added
(the closing `rfl`s). -/

/-- bid placement: `BeforeBidPlaced` once per listener, with the id, owner, type, price and
    coin of the bid that is then stored -/
theorem C17_place_bid_hook (st : State) (bidder : Acc) (aid : Nat) (t : BidType) (price : Dec) (denom : Denom)
    (amt : Int) (hok : (step st (.msg (.place bidder aid (some t) price denom amt))).1.res = .ok) :
    ∃ v' b, (step st (.msg (.place bidder aid (some t) price denom amt))).2.core.views[aid]? = some v' ∧
      v'.bids.getLast? = some b ∧
      hooksOf (step st (.msg (.place bidder aid (some t) price denom amt))).1.effs =
        calledOnce st.ctl.listeners "BeforeBidPlaced" (bidHookArgs b) := by
  obtain ⟨c, -, hc, hr⟩ := step_msg_ok hok
  obtain ⟨v, ab, hv, -, -, -, -, -, -, b, -, rfl⟩ := placeBid_iff.mp hc
  obtain ⟨b', hlast, hargs⟩ := v.placed_last (v.newBid aid bidder t price denom amt)
  rw [hr]
  refine ⟨_, b', getElem?_set_of_get hv, hlast, ?_⟩
  rw [← hargs, setView_effs, HookInv.hooksOf_heard, HookInv.hooksOf_paid]
  rfl

/-- modification: `BeforeBidModified` once per listener with the values as stored — whether or
    not an extra reservation was needed -/
theorem C17_modify_bid_hook (st : State) (bidder : Acc) (aid bidId : Nat) (price : Dec) (denom : Denom)
    (amt : Int) (hok : (step st (.msg (.modify bidder aid bidId price denom amt))).1.res = .ok) :
    ∃ v' b, (step st (.msg (.modify bidder aid bidId price denom amt))).2.core.views[aid]? = some v' ∧
      b ∈ v'.bids ∧ b.id = bidId ∧ b.price = price ∧ b.amt = amt ∧
      hooksOf (step st (.msg (.modify bidder aid bidId price denom amt))).1.effs =
        calledOnce st.ctl.listeners "BeforeBidModified" (bidHookArgs b) := by
  obtain ⟨c, -, hc, hr⟩ := step_msg_ok hok
  obtain ⟨v, bid, hv, -, -, hfind, -, -, -, -, -, -, -, b, -, rfl⟩ := modifyBid_iff.mp hc
  have hid : (bid.id == bidId) = true := List.find?_some (p := fun x : Bid => x.id == bidId) hfind
  rw [hr]
  refine ⟨_, { bid with price := price, amt := amt }, getElem?_set_of_get hv, ?_, by simpa using hid,
    rfl, rfl, ?_⟩
  · exact List.mem_map.2 ⟨bid, List.mem_of_find?_eq_some hfind, by simp only [hid, if_true]⟩
  · rw [setView_effs, HookInv.hooksOf_heard, HookInv.hooksOf_paid]
    rfl

/-- creation: `Before…Created` then `After…Created` (with the new id), once per listener each -/
theorem C17_create_hooks (st : State) (m : CreateMsg) (hok : (step st (.msg (.create m))).1.res = .ok) :
    hooksOf (step st (.msg (.create m))).1.effs =
      calledOnce st.ctl.listeners
        (if m.type = .fixed then "BeforeFixedPriceAuctionCreated" else "BeforeBatchAuctionCreated")
        (createHookArgs m none) ++
      calledOnce st.ctl.listeners
        (if m.type = .fixed then "AfterFixedPriceAuctionCreated" else "AfterBatchAuctionCreated")
        (createHookArgs m (some st.core.views.length)) := by
  obtain ⟨c, -, hc, hr⟩ := step_msg_ok hok
  obtain ⟨-, -, -, -, -, -, b, -, rfl⟩ := createAuction_iff.mp hc
  rw [hr, HookInv.hooksOf_heard]
  show hooksOf ((Ctx.paid _ _ b).heard _ _).effs ++ _ = _
  rw [HookInv.hooksOf_heard, HookInv.hooksOf_paid]
  rfl

theorem C17_cancel_hook (st : State) (signer : Acc) (aid : Nat)
    (hok : (step st (.msg (.cancel signer aid))).1.res = .ok) :
    hooksOf (step st (.msg (.cancel signer aid))).1.effs =
      calledOnce st.ctl.listeners "BeforeAuctionCanceled" [rNat aid, rAcc signer] := by
  obtain ⟨c, -, hc, hr⟩ := step_msg_ok hok
  obtain ⟨v, -, -, -, -, -, b, -, rfl⟩ := cancelAuction_iff.mp hc
  rw [hr, setView_effs, HookInv.hooksOf_heard, HookInv.hooksOf_paid]
  rfl

theorem C17_allowlist_hooks (st : State) (aid : Nat) :
    (∀ abs, (step st (.kadd aid abs)).1.res = .ok →
      hooksOf (step st (.kadd aid abs)).1.effs =
        calledOnce st.ctl.listeners "BeforeAllowedBiddersAdded" (rAllowedArgs abs)) ∧
    (∀ u cap, (step st (.kupd aid u cap)).1.res = .ok →
      hooksOf (step st (.kupd aid u cap)).1.effs =
        calledOnce st.ctl.listeners "BeforeAllowedBidderUpdated" [rNat aid, rAcc u, rInt cap]) := by
  refine ⟨fun abs hok => ?_, fun u cap hok => ?_⟩
  · obtain ⟨c, hc, hr⟩ := runAtomic_ok (f := fun c => addAllowedBidders c aid abs) hok
    obtain ⟨-, v, -, -, -, rfl⟩ := addAllowedBidders_iff.mp hc
    rw [show step st (.kadd aid abs) = _ from hr]
    exact HookInv.hooksOf_heard ..
  · obtain ⟨c, hc, hr⟩ := runAtomic_ok (f := fun c => updateAllowedBidder c aid u cap) hok
    obtain ⟨v, -, -, -, -, rfl⟩ := updateAllowedBidder_iff.mp hc
    rw [show step st (.kupd aid u cap) = _ from hr]
    exact HookInv.hooksOf_heard ..

/-- veto, uniformly for every hook, every listener position and every operation (messages,
    keeper-API calls and blocks — i.e. settlements): if a listener that the operation calls
    returns an error, the operation fails, commits nothing, and no later listener is called -/
theorem C17_veto_fails_operation (st : State) (op : Op) (hop : op.isModuleOp = true) (name : String) (j : Nat)
    (args : List String) (hf : st.ctl.failhook = none)
    (hok : (step st op).1.res = .ok) (hcall : Eff.hook j name args ∈ (step st op).1.effs) :
    let st' : State := { st with ctl := { st.ctl with failhook := some (name, j) } }
    (step st' op).1.res ≠ .ok ∧
    (step st' op).2.core = (match op with | .block t => { st.core with now := t } | _ => st.core) ∧
    ∀ k a, j < k → Eff.hook k name a ∉ (step st' op).1.effs := by
  intro st'
  have _ := hf
  obtain ⟨e, hb, h⟩ := step_armed (hookSpec_ok name j) st op (fun _ _ hm => nomatch hm) hok
    (fun _ hn => Nat.lt_irrefl j (hn j args hcall))
  rw [show step st' op = _ from h]
  refine ⟨nofun, ?_, hb.filter _⟩
  cases op <;> rfl

end Fundraising
