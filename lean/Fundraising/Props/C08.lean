import Fundraising.Proofs.FrameProofs
import Fundraising.Proofs.ProgressProofs
import Fundraising.Proofs.WFProofs
/-
  C08 — Auctions move only forward through their lifecycle, at the right block.
  Reading R1 (DESIGN §5): `BeginBlocker` dispatches on the status an auction has at the start
  of the block, so one lifecycle stage is taken per block.
-/
namespace Fundraising

/-- only forward: in every reachable state, every operation (any message, keeper call,
    block, genesis round trip, failed operation) moves every existing auction along
    waiting → open → (vesting →) finished or waiting → cancelled, or leaves it where it is;
    finished and cancelled are permanent (`statusEdge` has no edge out of them) -/
theorem C08_status_only_forward (st : State) (h : Reach st) (op : Op) (hop : op ≠ .reset)
    (i : Nat) (v : AView) (hv : st.core.views[i]? = some v) :
    ∃ v', (step st op).2.core.views[i]? = some v' ∧ statusEdge v.a.status v'.a.status = true := by
  obtain ⟨v', h1, h2⟩ := view_step st op hop (wf_reach st h) i v hv
  exact ⟨v', h1, h2.status⟩

theorem C08_terminal_is_permanent (s : Status) (h : s = .finished ∨ s = .cancelled) (s' : Status)
    (he : statusEdge s s' = true) : s' = s := by
  rcases h with rfl | rfl <;> cases s' <;> simp [statusEdge] at he ⊢

/-- opens at the first block at or after its start time (and not before) -/
theorem C08_opens_at (st : State) (t : Int) (hok : (step st (.block t)).1.res = .ok)
    (i : Nat) (v v' : AView) (hv : st.core.views[i]? = some v)
    (hv' : (step st (.block t)).2.core.views[i]? = some v') (hs : v.a.status = .standby) :
    (v.a.startTime ≤ t → v'.a.status = .started) ∧ (t < v.a.startTime → v' = v) := by
  obtain ⟨h1, h2⟩ := block_opens st t hok i v v' hv hv' hs
  exact ⟨fun h => by rw [h1 h], h2⟩

/-- at creation if that time has already passed -/
theorem C08_created_open_iff_started (st : State) (m : CreateMsg)
    (hok : (step st (.msg (.create m))).1.res = .ok) :
    ∃ v, (step st (.msg (.create m))).2.core.views[st.core.views.length]? = some v ∧
      v.a.status = (if m.startTime ≤ st.core.now then .started else .standby) := by
  obtain ⟨v, h1, h2, _⟩ := create_status st m hok
  exact ⟨v, h1, h2⟩

/-- settles (or takes an extended round) at the first block at or after its current end
    time, untouched before it -/
theorem C08_settles_at (st : State) (t : Int) (hok : (step st (.block t)).1.res = .ok)
    (i : Nat) (v v' : AView) (hv : st.core.views[i]? = some v)
    (hv' : (step st (.block t)).2.core.views[i]? = some v') (hs : v.a.status = .started) :
    (v.a.lastEnd ≤ t →
      (v'.a.status = .vesting ∨ v'.a.status = .finished) ∨
      (v'.a.status = .started ∧ v.a.type = .batch ∧ v'.a.endTimes.length = v.a.endTimes.length + 1)) ∧
    (t < v.a.lastEnd → v' = v) :=
  block_closes st t hok i v v' hv hv' hs

/-- finishes when its last instalment is released -/
theorem C08_finishes_with_last_release (st : State) (h : Reach st) (t : Int)
    (hok : (step st (.block t)).1.res = .ok)
    (i : Nat) (v v' : AView) (hv : st.core.views[i]? = some v)
    (hv' : (step st (.block t)).2.core.views[i]? = some v') (hs : v.a.status = .vesting) :
    (v'.a.status = .finished ↔ ∃ q, v.vqs.getLast? = some q ∧ q.release ≤ t ∧ q.released = false) ∧
    (v'.a.status = .finished ∨ v'.a.status = .vesting) := by
  have hw := (wf_reach st h).views i v hv
  obtain ⟨_, _, h3, h4⟩ := block_releases st t hok i v v' hv hv' hs (vqs_sorted i v hw)
  exact ⟨h3, h4⟩

/-- bids and modifications are accepted only while the auction is open -/
theorem C08_bids_only_while_open (st : State) (h : Reach st) (op : Op) (hop : op ≠ .reset)
    (i : Nat) (v v' : AView) (hv : st.core.views[i]? = some v)
    (hv' : (step st op).2.core.views[i]? = some v') :
    (v.bids.length < v'.bids.length → v.a.status = .started) ∧
    (∀ b ∈ v.bids, ∀ b' ∈ v'.bids, b'.id = b.id → (b'.price ≠ b.price ∨ b'.amt ≠ b.amt) →
        v.a.status = .started) := by
  obtain ⟨h1, h2⟩ := bids_change_only_by_owner st op hop (wf_reach st h) i v v' hv hv'
  exact ⟨fun hl => (h2 hl).1, fun b hb b' hb' hid hne => (h1 b hb b' hb' hid hne).1⟩

end Fundraising
