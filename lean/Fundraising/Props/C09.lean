import Fundraising.Proofs.VestingLemmas
import Fundraising.Proofs.ProgressProofs
import Fundraising.Proofs.WFProofs
import Fundraising.Props.C08
/-
  C09 — Vesting pays the auctioneer exactly the proceeds, on schedule, exactly once.
-/
namespace Fundraising

/-- the split: for ANY number of instalments (not only 1..100), any positive weights
    summing to one, and any non-negative proceeds (incl. zero and amounts smaller than the
    number of instalments): the computation produces no negative coin, one instalment per
    schedule entry with that entry's release time, every non-final instalment is the weight
    share rounded down, all are non-negative, and they sum EXACTLY to the proceeds -/
theorem C09_split_exact (R : Int) (vs : List VS) (hR : 0 ≤ R) (hv : ValidWeights vs) :
    ∃ parts, splitLoop R vs R = some parts ∧
      parts.map (·.1) = vs.map (·.release) ∧
      (parts.map (·.2)).sum = R ∧
      (∀ p ∈ parts, 0 ≤ p.2) ∧
      (∀ i, i + 1 < vs.length → (parts.map (·.2))[i]? = some (R * (vs.map (·.weight)).getD i 0 / PREC)) :=
  splitLoop_spec R vs hR hv

/-- what `ValidateVestingSchedules` guarantees about an accepted schedule -/
theorem C09_accepted_schedule (vs : List VS) (endTime : Int) (hne : vs ≠ [])
    (h : validSchedules vs endTime = true) :
    ValidWeights vs ∧ (∀ s ∈ vs, endTime < s.release) ∧ (vs.map (·.release)).Pairwise (· < ·) :=
  validSchedules_spec vs endTime hne h

/-- at settlement, in every reachable state: an auction without a schedule pays all
    proceeds at settlement and is finished; with a schedule the proceeds `R` (everything
    the paying escrow holds after refunds) move to the vesting escrow and are split by
    `splitLoop` into one unreleased instalment per schedule entry -/
theorem C09_settlement_split (st : State) (h : Reach st) (t : Int)
    (hok : (step st (.block t)).1.res = .ok)
    (i : Nat) (v v' : AView) (hv : st.core.views[i]? = some v)
    (hv' : (step st (.block t)).2.core.views[i]? = some v')
    (hs : v.a.status = .started) (hsettled : v'.a.status ≠ .started) :
    (v.a.schedules = [] → v'.a.status = .finished ∧ v'.vqs = []) ∧
    (v.a.schedules ≠ [] → v'.a.status = .vesting ∧
      ∃ R parts, 0 ≤ R ∧ splitLoop R v.a.schedules R = some parts ∧ (parts.map (·.2)).sum = R ∧
        v'.vqs.map (fun q => (q.release, q.amt)) = parts ∧
        (∀ q ∈ v'.vqs, q.released = false ∧ q.denom = v.a.payDenom ∧ q.auctioneer = v.a.auctioneer) ∧
        ∃ x ∈ xfersOf (step st (.block t)).1.effs, x.src = .pay i ∧ x.dst = .vest i ∧
          x.coins = (if R = 0 then [] else [⟨v.a.payDenom, R⟩])) := by
  have hw := (wf_reach st h).views i v hv
  have hvq : v.vqs = [] := hw.vqsNone (Or.inr (Or.inl hs))
  obtain ⟨h1, h2⟩ := settlement_vesting st t hok i v v' hv hv' hs hsettled hvq
    (validSchedules_sorted _ _ hw.auction.sched)
  refine ⟨h1, fun hne => ?_⟩
  obtain ⟨hst, R, parts, hR, hsp, hq, hall, hx⟩ := h2 hne
  have hvw := (validSchedules_spec _ _ hne hw.auction.sched).1
  obtain ⟨parts', hp', _, hsum, _⟩ := splitLoop_spec R v.a.schedules hR hvw
  rw [hsp] at hp'; cases hp'
  exact ⟨hst, R, parts, hR, hsp, hsum, hq, hall, hx⟩

/-- on schedule, exactly once: in a successful block the `released` flag flips exactly
    for the unreleased instalments whose release time has come (so each instalment is paid
    in the FIRST block at or after its release time, also when a block skips several release
    times), each flip comes with exactly one transfer of that instalment from the vesting
    escrow to the auctioneer, nothing else in the queue changes — and a released instalment
    is never paid again (its flag never flips back: `ViewStep.vqsKept`, which `view_step` proves
    of every operation) -/
theorem C09_released_when_due_once (st : State) (h : Reach st) (t : Int)
    (hok : (step st (.block t)).1.res = .ok)
    (i : Nat) (v v' : AView) (hv : st.core.views[i]? = some v)
    (hv' : (step st (.block t)).2.core.views[i]? = some v') (hs : v.a.status = .vesting) :
    v'.vqs = v.vqs.map (fun q => if q.release ≤ t ∧ q.released = false then { q with released := true } else q) ∧
    (xfersOf (step st (.block t)).1.effs).filter (fun x => x.src = .vest i) =
      (v.vqs.filter (fun q => decide (q.release ≤ t) && !q.released)).map
        (fun q => (⟨.send, .vest i, .user v.a.auctioneer, if q.amt = 0 then [] else [⟨q.denom, q.amt⟩]⟩ : Transfer)) := by
  have hw := (wf_reach st h).views i v hv
  obtain ⟨h1, h2, _, _⟩ := block_releases st t hok i v v' hv hv' hs (vqs_sorted i v hw)
  exact ⟨h1, h2⟩

/-- a block that skips all remaining release times pays every outstanding instalment in that
    one block and finishes the auction -/
theorem C09_all_paid_by_last_release (st : State) (h : Reach st) (i : Nat) (v : AView)
    (hv : st.core.views[i]? = some v) (hs : v.a.status = .vesting) (t : Int)
    (hok : (step st (.block t)).1.res = .ok) (ht : ∀ q ∈ v.vqs, q.release ≤ t) :
    ∃ v', (step st (.block t)).2.core.views[i]? = some v' ∧ v'.a.status = .finished ∧
      ∀ q ∈ v'.vqs, q.released = true := by
  obtain ⟨v', hv', _⟩ := C08_status_only_forward st h (.block t) (by simp) i v hv
  have hfin : v'.a.status = .finished := by
    refine ((C08_finishes_with_last_release st h t hok i v v' hv hv' hs).1).2 ?_
    obtain ⟨q, hq, hrel⟩ := ((wf_reach st h).views i v hv).vestingOpen hs
    exact ⟨q, hq, ht q (List.mem_of_getLast? hq), hrel⟩
  exact ⟨v', hv', hfin,
    ((wf_reach _ (reach_step h (.block t))).views i v' hv').finishedAll hfin⟩

/-! non-vacuity: three instalments with weights 1/3, 1/3, 1/3+1e-18 of proceeds 2 (smaller than
    the number of instalments): 0, 0, 2 -/
example : splitLoop 2 [⟨10, 333333333333333333⟩, ⟨20, 333333333333333333⟩, ⟨30, 333333333333333334⟩] 2
    = some [(10, 0), (20, 0), (30, 2)] := by decide

end Fundraising
