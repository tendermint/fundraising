import Fundraising.Proofs.MatchList
import Fundraising.Proofs.DecLemmas
/-
  The sweep `matchLoop` of `types.Match`.  Its state is a record of functions of the bidder
  that each step changes at one point (`bump`); the proofs follow it with declarative
  counterparts: `bsum` (a per-bidder sum over the bids swept so far), `allocOf` / `totalOf`
  (capped demand of the swept bids, per bidder and in total), `BidOK` (what a well-formed book
  guarantees about one bid).  `SweepInv` is the loop invariant; `matchStep_spec`,
  `matchLoop_spec` and `matchAt_spec` say that the sweep fails exactly when the capped demand
  exceeds the supply and otherwise ends in a state satisfying the invariant.
-/
namespace Fundraising

/-! ### `bump`: a function changed at one point -/

theorem bump_self (f : Acc → Int) (u : Acc) (x : Int) : bump f u x u = f u + x := by simp [bump]
theorem bump_ne (f : Acc → Int) (u : Acc) (x : Int) (v : Acc) (h : v ≠ u) : bump f u x v = f v := by
  simp [bump, h]
theorem bump_zero (f : Acc → Int) (u : Acc) : bump f u 0 = f := by
  funext v; simp [bump]

theorem mul_bump (k : Int) (f : Acc → Int) (u : Acc) (x : Int) (v : Acc) :
    k * bump f u x v = bump (fun v => k * f v) u (k * x) v := by
  unfold bump; split
  · exact Int.mul_add _ _ _
  · rfl

theorem bump_le_bump {f g : Acc → Int} {u : Acc} {x y : Int} (hfg : ∀ v, f v ≤ g v) (hxy : x ≤ y)
    (v : Acc) : bump f u x v ≤ bump g u y v := by
  unfold bump; split
  · exact Int.add_le_add (hfg v) hxy
  · exact hfg v

theorem isum_map_bump (f : Acc → Int) (u : Acc) (x : Int) (B : List Acc) (hB : B.Nodup) (hu : u ∈ B) :
    (B.map (bump f u x)).sum = (B.map f).sum + x :=
  isum_map_update f _ u x B hB hu (bump_self f u x) (fun v _ => bump_ne f u x v)

/-! ### per-bidder sums -/

/-- sum of `f` over `u`'s bids in `l`.  The model's `sumOver` is the same number written as the
    fold Go runs (`sumOver_eq`; `reservedOf_eq_bsum` for the reservations); the proofs use this form, which splits over `++` and
    is invariant under permutation. -/
def bsum (f : Bid → Int) (l : List Bid) (u : Acc) : Int := ((l.filter (·.bidder == u)).map f).sum

theorem bsum_nil (f : Bid → Int) (u : Acc) : bsum f [] u = 0 := rfl

theorem bsum_append (f : Bid → Int) (l l' : List Bid) (u : Acc) :
    bsum f (l ++ l') u = bsum f l u + bsum f l' u := by
  unfold bsum; rw [List.filter_append, List.map_append, List.sum_append_int]

theorem bsum_snoc (f : Bid → Int) (l : List Bid) (b : Bid) :
    bsum f (l ++ [b]) = bump (bsum f l) b.bidder (f b) := by
  funext v
  rw [bsum_append]
  by_cases h : v = b.bidder
  · subst h; rw [bump_self]; simp [bsum]
  · rw [bump_ne _ _ _ v h]; simp [bsum, Ne.symm h]

theorem bsum_nonneg (f : Bid → Int) (l : List Bid) (u : Acc) (h : ∀ b ∈ l, 0 ≤ f b) : 0 ≤ bsum f l u :=
  isum_map_nonneg fun b hb => h b (List.mem_filter.1 hb).1

theorem bsum_perm (f : Bid → Int) {l l' : List Bid} (h : l.Perm l') (u : Acc) : bsum f l u = bsum f l' u :=
  isum_perm ((h.filter _).map f)

theorem bsum_filter_le (f : Bid → Int) (l : List Bid) (P : Bid → Bool) (u : Acc)
    (h : ∀ b ∈ l, 0 ≤ f b) : bsum f (l.filter P) u ≤ bsum f l u := by
  unfold bsum
  rw [List.filter_filter]
  exact isum_filter_mono _ _ f f l (fun x _ hx => (Bool.and_eq_true _ _ ▸ hx).1)
    (fun _ _ _ => Int.le_refl _) h

theorem reservedOf_eq_bsum (bids : List Bid) (pd : Denom) (u : Acc) :
    reservedOf bids pd u = bsum (·.toPaying pd) bids u :=
  sumOver_eq bids u _

theorem rawDemand_eq_bsum (bids : List Bid) (u : Acc) (p : Dec) :
    rawDemand bids u p = bsum (qtyAt · p) (bids.filter (fun b => decide (p ≤ b.price))) u := by
  unfold rawDemand bsum; rw [List.filter_filter]

theorem capOf_nonneg (allowed : List Allowed) (hcaps : ∀ x ∈ allowed, 0 < x.cap) (u : Acc) :
    0 ≤ capOf allowed u := by
  unfold capOf lookupAllowed
  cases h : allowed.find? (·.bidder == u) with
  | none => simp
  | some x => simp; exact Int.le_of_lt (hcaps x (List.mem_of_find?_eq_some h))

theorem capsOf_eq (allowed : List Allowed) (u : Acc) (h : (lookupAllowed allowed u).isSome) :
    capsOf allowed u = some (capOf allowed u) := by
  unfold capsOf capOf
  cases h' : lookupAllowed allowed u with
  | none => rw [h'] at h; cases h
  | some x => simp

/-! ### what a bid type provides

The sweep knows a bid through its quantity at a price and its reservation.  A bid type has to
provide: `bidQty` is defined (`bidQty_eq_some`), `qtyAt` is not negative and antitone in the price
(`qtyAt_nonneg`, `qtyAt_antitone`), and a step never charges more than the bid reserved
(`BidOK.pay_le`, below with the rounding rule). -/

theorem qtyAt_nonneg (b : Bid) (p : Dec) (hb : 0 ≤ b.amt) (hp : 0 ≤ p) : 0 ≤ qtyAt b p := by
  unfold qtyAt bidQty
  cases b.type with
  | fixed => simp
  | many => simpa using hb
  | worth => exact Dec.truncInt_quoTrunc_ofInt_nonneg _ _ hb hp

theorem qtyAt_worth (b : Bid) (p : Dec) (ht : b.type = .worth) (hb : 0 ≤ b.amt) (hp : 0 < p) :
    qtyAt b p = b.amt * PREC / p := by
  unfold qtyAt bidQty; rw [ht]; exact Dec.truncInt_quoTrunc_ofInt _ _ hb hp

theorem qtyAt_many (b : Bid) (p : Dec) (ht : b.type = .many) : qtyAt b p = b.amt := by
  unfold qtyAt bidQty; rw [ht]; rfl

theorem qtyAt_fixed (b : Bid) (p : Dec) (ht : b.type = .fixed) : qtyAt b p = 0 := by
  unfold qtyAt bidQty; rw [ht]; rfl

theorem ediv_antitone (x p q : Int) (hx : 0 ≤ x) (hp : 0 < p) (hpq : p ≤ q) : x / q ≤ x / p := by
  have hq : 0 < q := Int.lt_of_lt_of_le hp hpq
  apply Int.le_ediv_of_mul_le hp
  have h1 : 0 ≤ x / q := Int.ediv_nonneg hx (Int.le_of_lt hq)
  have h2 : x / q * p ≤ x / q * q := Int.mul_le_mul_of_nonneg_left hpq h1
  have h3 : x / q * q ≤ x := Int.ediv_mul_le x (Int.ne_of_gt hq)
  exact Int.le_trans h2 h3

theorem qtyAt_antitone (b : Bid) (p q : Dec) (hb : 0 ≤ b.amt) (hp : 0 < p) (hpq : p ≤ q) :
    qtyAt b q ≤ qtyAt b p := by
  cases ht : b.type with
  | fixed => rw [qtyAt_fixed b q ht, qtyAt_fixed b p ht]; exact Int.le_refl _
  | many => rw [qtyAt_many b q ht, qtyAt_many b p ht]; exact Int.le_refl _
  | worth =>
    rw [qtyAt_worth b q ht hb (Int.lt_of_lt_of_le hp hpq), qtyAt_worth b p ht hb hp]
    exact ediv_antitone _ p q (Int.mul_nonneg hb (by decide)) hp hpq

theorem bidQty_eq_some (b : Bid) (p : Dec) (h : b.type = .worth ∨ b.type = .many) :
    bidQty b p = some (qtyAt b p) := by
  unfold qtyAt bidQty
  rcases h with e | e <;> rw [e] <;> rfl

/-- what the sweep needs to know about one bid of a well-formed book, priced at or above `p` -/
structure BidOK (a : Auction) (allowed : List Allowed) (B : List Acc) (p : Dec) (b : Bid) : Prop where
  type : b.type = .worth ∨ b.type = .many
  denom : (b.type = .worth → b.denom = a.payDenom) ∧ (b.type = .many → b.denom ≠ a.payDenom)
  price : p ≤ b.price
  amt : 0 < b.amt
  listed : (lookupAllowed allowed b.bidder).isSome
  inB : b.bidder ∈ B

theorem BidOK.bidQty_eq {a allowed B p b} (h : BidOK a allowed B p b) :
    Fundraising.bidQty b p = some (qtyAt b p) :=
  bidQty_eq_some b p h.type

theorem BidOK.qty_nonneg {a allowed B p b} (h : BidOK a allowed B p b) (hp : 0 < p) : 0 ≤ qtyAt b p :=
  qtyAt_nonneg b p (Int.le_of_lt h.amt) (Int.le_of_lt hp)

theorem BidOK.toPaying_nonneg {a allowed B p b} (h : BidOK a allowed B p b) (hp : 0 < p) :
    0 ≤ b.toPaying a.payDenom :=
  Int.le_of_lt (b.toPaying_pos _ h.amt (Int.lt_of_lt_of_le hp h.price))

/-! ### the rounding rule of a step

`Dec.truncInt (Dec.ceil (Dec.mulInt p m))` is what `m` coins cost at price `p`.  These three
lemmas are all the sweep uses of that rule (`payHi_step` is their arithmetic consequence for one
bidder); whoever changes the rule re-proves them. -/

theorem payAmt_spec (p m : Int) (hp : 0 < p) (hm : 0 ≤ m) :
    p * m ≤ PREC * Dec.truncInt (Dec.ceil (Dec.mulInt p m)) ∧
    PREC * Dec.truncInt (Dec.ceil (Dec.mulInt p m)) < p * m + PREC := by
  have hx : 0 ≤ p * m := Int.mul_nonneg (Int.le_of_lt hp) hm
  rw [Dec.truncInt_ceil_mulInt p m hx]
  have := Dec.ceilDiv_spec (p * m)
  generalize p * m = x at *
  unfold PREC at *; omega

theorem payAmt_zero (p : Int) : Dec.truncInt (Dec.ceil (Dec.mulInt p 0)) = 0 := by
  unfold Dec.mulInt; rw [Int.mul_zero]; decide

/-- a step never charges more than the bid reserved -/
theorem BidOK.pay_le {a allowed B p b} (h : BidOK a allowed B p b) (hp : 0 < p) (m : Int)
    (hm0 : 0 ≤ m) (hm : m ≤ qtyAt b p) :
    Dec.truncInt (Dec.ceil (Dec.mulInt p m)) ≤ b.toPaying a.payDenom := by
  have hx : 0 ≤ p * m := Int.mul_nonneg (Int.le_of_lt hp) hm0
  rw [Dec.truncInt_ceil_mulInt p m hx]
  have hamt := Int.le_of_lt h.amt
  rcases h.type with e | e
  · rw [Bid.toPaying_pay b _ (h.denom.1 e)]
    rw [qtyAt_worth b p e hamt hp] at hm
    have h1 : p * m ≤ p * (b.amt * PREC / p) := Int.mul_le_mul_of_nonneg_left hm (Int.le_of_lt hp)
    have h2 : p * (b.amt * PREC / p) ≤ b.amt * PREC := Int.mul_ediv_self_le (Int.ne_of_gt hp)
    exact Dec.ceilDiv_le _ _ (Int.le_trans h1 h2)
  · have hpr : 0 ≤ b.price := Int.le_trans (Int.le_of_lt hp) h.price
    rw [Bid.toPaying_sell b _ (h.denom.2 e) hamt hpr]
    rw [qtyAt_many b p e] at hm
    have h1 : p * m ≤ b.price * b.amt := Int.mul_le_mul h.price hm hm0 hpr
    rw [Int.mul_comm b.price b.amt] at h1
    exact Dec.ceilDiv_mono _ _ h1

/-- the `payHi` clause of the sweep invariant for a bidder with `k` matched bids, after one more
    bid of theirs got `m > 0` and was charged `c`: one more unit of rounding is allowed -/
theorem payHi_step {p al py k m c : Int}
    (hold : (al = 0 ∧ py = 0) ∨ (0 < al ∧ PREC * py < p * al + PREC * k)) (hk : 0 ≤ k) (hm : 0 < m)
    (hc : PREC * c < p * m + PREC) :
    0 < al + m ∧ PREC * (py + c) < p * (al + m) + PREC * (k + 1) := by
  have hk' : 0 ≤ PREC * k := Int.mul_nonneg (by decide) hk
  rw [Int.mul_add, Int.mul_add, Int.mul_add, Int.mul_one]
  rcases hold with ⟨e1, e2⟩ | ⟨e1, e2⟩
  · rw [e1, e2, Int.mul_zero, Int.mul_zero]; omega
  · omega

/-! ### the declarative counterparts of the sweep's state -/

/-- what `u` has been allocated after the bids `l` were swept -/
def allocOf (p : Dec) (allowed : List Allowed) (l : List Bid) (u : Acc) : Int :=
  min (bsum (qtyAt · p) l u) (capOf allowed u)

def totalOf (p : Dec) (allowed : List Allowed) (B : List Acc) (l : List Bid) : Int :=
  (B.map (allocOf p allowed l)).sum

theorem allocOf_snoc (p : Dec) (allowed : List Allowed) (done : List Bid) (b : Bid)
    (hq : 0 ≤ qtyAt b p) :
    allocOf p allowed (done ++ [b]) = bump (allocOf p allowed done) b.bidder
      (min (qtyAt b p) (capOf allowed b.bidder - allocOf p allowed done b.bidder)) := by
  funext v
  unfold allocOf
  rw [bsum_snoc]
  by_cases h : v = b.bidder
  · subst h; rw [bump_self, bump_self]; omega
  · rw [bump_ne _ _ _ v h, bump_ne _ _ _ v h]

theorem totalOf_snoc (p : Dec) (allowed : List Allowed) (B : List Acc) (done : List Bid) (b : Bid)
    (hq : 0 ≤ qtyAt b p) (hB : B.Nodup) (hb : b.bidder ∈ B) :
    totalOf p allowed B (done ++ [b]) = totalOf p allowed B done +
      min (qtyAt b p) (capOf allowed b.bidder - allocOf p allowed done b.bidder) := by
  unfold totalOf
  rw [allocOf_snoc p allowed done b hq]
  exact isum_map_bump _ _ _ B hB hb

theorem totalOf_mono (p : Dec) (allowed : List Allowed) (B : List Acc) (l l' : List Bid)
    (h : ∀ b ∈ l', 0 ≤ qtyAt b p) : totalOf p allowed B l ≤ totalOf p allowed B (l ++ l') := by
  refine isum_map_le fun u _ => ?_
  unfold allocOf
  rw [bsum_append]
  have := bsum_nonneg (qtyAt · p) l' u h
  omega

def matchedCount (acc : MAcc) (u : Acc) : Int := (acc.matched.filter (·.bidder == u)).length

/-- The loop invariant of the sweep at price `p`, after the bids `done` (`B`: the bidders over
    whom the total is taken, `pd`: the paying denomination).
    * `rem`: what a listed bidder may still get is the cap minus what they got;
    * `alloc`, `total`: allocations are the capped demand of the swept bids;
    * `payLo`, `payHi`: uniform price within rounding — each matched bid is charged
      `⌈p·m / 10^18⌉` for its `m` coins, so `u` pays at least `p·alloc` and less than one
      smallest paying unit more per matched bid of `u` (the count is `matchedCount acc u`
      written out); nothing is charged to a bidder who got nothing — hence the disjunction
      in `payHi`: with no matched bid the strict bound would read `0 < 0`;
    * `payRes`: a bidder is charged at most what their swept bids reserved;
    * `matched`: the matched bids are swept bids, in sweep order. -/
structure SweepInv (p : Dec) (allowed : List Allowed) (B : List Acc) (pd : Denom)
    (done : List Bid) (acc : MAcc) : Prop where
  price : acc.price = p
  rem : ∀ u, (lookupAllowed allowed u).isSome → acc.rem u = some (capOf allowed u - acc.alloc u)
  alloc : ∀ u, acc.alloc u = allocOf p allowed done u
  total : acc.total = totalOf p allowed B done
  payLo : ∀ u, p * acc.alloc u ≤ PREC * acc.pay u
  payHi : ∀ u, (acc.alloc u = 0 ∧ acc.pay u = 0) ∨
    (0 < acc.alloc u ∧
      PREC * acc.pay u < p * acc.alloc u + PREC * ((acc.matched.filter (·.bidder == u)).length : Int))
  payRes : ∀ u, acc.pay u ≤ bsum (·.toPaying pd) done u
  matched : acc.matched.Sublist done

theorem sweepInv_init (p : Dec) (allowed : List Allowed) (B : List Acc) (pd : Denom)
    (hcaps : ∀ x ∈ allowed, 0 < x.cap) :
    SweepInv p allowed B pd [] { price := p, rem := capsOf allowed } := by
  have hA : ∀ u, allocOf p allowed [] u = 0 := by
    intro u
    have := capOf_nonneg allowed hcaps u
    unfold allocOf; rw [bsum_nil]; omega
  refine ⟨rfl, fun u hu => ?_, fun u => (hA u).symm, ?_, fun u => by show p * 0 ≤ PREC * 0; simp,
    fun u => Or.inl ⟨rfl, rfl⟩, fun u => Int.le_refl _, List.Sublist.refl _⟩
  · show capsOf allowed u = some (capOf allowed u - 0)
    rw [capsOf_eq allowed u hu, Int.sub_zero]
  · show (0 : Int) = totalOf p allowed B []
    unfold totalOf
    rw [List.map_congr_left (fun u _ => hA u), isum_map_zero]

/-- the sweep state after `m > 0` of bid `b` was matched; `r` is what its bidder had left -/
def MAcc.take (acc : MAcc) (p : Dec) (b : Bid) (m r : Int) : MAcc :=
  { price := acc.price, total := acc.total + m,
    rem := fun v => if v = b.bidder then some (r - m) else acc.rem v,
    alloc := bump acc.alloc b.bidder m,
    pay := bump acc.pay b.bidder (Dec.truncInt (Dec.ceil (Dec.mulInt p m))),
    matched := acc.matched ++ [b] }

/-- `matchStep` when neither `math.Int` is nil, as the code computes it: also a bid that gets
    nothing goes through the two map writes -/
theorem matchStep_some (p : Dec) (S : Int) (acc : MAcc) (b : Bid) (q r : Int)
    (hq : bidQty b p = some q) (hr : acc.rem b.bidder = some r) :
    matchStep p S acc b =
      if acc.total + min q r > S then .nofit
      else .fit (if min q r > 0 then acc.take p b (min q r) r
        else { acc with alloc := bump acc.alloc b.bidder (min q r),
                        pay := bump acc.pay b.bidder (Dec.truncInt (Dec.ceil (Dec.mulInt p (min q r)))) }) := by
  unfold matchStep
  simp only [hq, hr]
  by_cases hS : acc.total + min q r > S
  · rw [if_pos hS, if_pos hS]
  · rw [if_neg hS, if_neg hS]
    by_cases hm : min q r > 0
    · rw [if_pos hm, if_pos hm]; rfl
    · rw [if_neg hm, if_neg hm]

/-- … in closed form: a bid that gets nothing leaves the state as it is -/
theorem matchStep_eq (p : Dec) (S : Int) (acc : MAcc) (b : Bid) (q r : Int)
    (hq : bidQty b p = some q) (hr : acc.rem b.bidder = some r) (hm : 0 ≤ min q r) :
    matchStep p S acc b =
      if acc.total + min q r > S then .nofit
      else .fit (if min q r > 0 then acc.take p b (min q r) r else acc) := by
  rw [matchStep_some p S acc b q r hq hr]
  by_cases h : min q r > 0
  · rw [if_pos h, if_pos h]
  · have h0 : min q r = 0 := by omega
    rw [h0, payAmt_zero, bump_zero, bump_zero]

theorem SweepInv.skip {a : Auction} {allowed : List Allowed} {B : List Acc} {p : Dec}
    {done : List Bid} {acc : MAcc} {b : Bid} (hB : B.Nodup) (hp : 0 < p)
    (hinv : SweepInv p allowed B a.payDenom done acc) (hb : BidOK a allowed B p b)
    (hm : min (qtyAt b p) (capOf allowed b.bidder - allocOf p allowed done b.bidder) = 0) :
    SweepInv p allowed B a.payDenom (done ++ [b]) acc := by
  have hq0 := hb.qty_nonneg hp
  have hA := allocOf_snoc p allowed done b hq0
  have hT := totalOf_snoc p allowed B done b hq0 hB hb.inB
  rw [hm] at hA hT
  rw [bump_zero] at hA
  refine { hinv with alloc := ?_, total := ?_, payRes := fun v => ?_, matched := ?_ }
  · rw [hA]; exact hinv.alloc
  · rw [hT, Int.add_zero]; exact hinv.total
  · have h1 := hinv.payRes v
    have h2 : bsum (·.toPaying a.payDenom) done v ≤ bsum (·.toPaying a.payDenom) (done ++ [b]) v := by
      rw [bsum_append]
      have := bsum_nonneg (·.toPaying a.payDenom) [b] v
        (fun c hc => by rw [List.mem_singleton.1 hc]; exact hb.toPaying_nonneg hp)
      omega
    omega
  · exact hinv.matched.trans (List.sublist_append_left _ _)

theorem SweepInv.take {a : Auction} {allowed : List Allowed} {B : List Acc} {p : Dec}
    {done : List Bid} {acc : MAcc} {b : Bid} (hB : B.Nodup) (hp : 0 < p)
    (hinv : SweepInv p allowed B a.payDenom done acc) (hb : BidOK a allowed B p b)
    (m : Int) (hm : m = min (qtyAt b p) (capOf allowed b.bidder - allocOf p allowed done b.bidder))
    (hpos : 0 < m) :
    SweepInv p allowed B a.payDenom (done ++ [b])
      (acc.take p b m (capOf allowed b.bidder - acc.alloc b.bidder)) := by
  have hq0 := hb.qty_nonneg hp
  have hA := allocOf_snoc p allowed done b hq0
  have hT := totalOf_snoc p allowed B done b hq0 hB hb.inB
  rw [← hm] at hA hT
  have hc := payAmt_spec p m hp (Int.le_of_lt hpos)
  have hcr := hb.pay_le hp m (Int.le_of_lt hpos) (hm ▸ Int.min_le_left _ _)
  unfold MAcc.take
  generalize Dec.truncInt (Dec.ceil (Dec.mulInt p m)) = c at *
  refine ⟨hinv.price, fun v hv => ?_, fun v => ?_, ?_, fun v => ?_, fun v => ?_, fun v => ?_,
    hinv.matched.append (List.Sublist.refl _)⟩ <;> dsimp only
  · by_cases hvu : v = b.bidder
    · subst hvu; rw [if_pos rfl, bump_self, Int.sub_sub]
    · rw [if_neg hvu, bump_ne _ _ _ v hvu]; exact hinv.rem v hv
  · rw [hA, funext hinv.alloc]
  · rw [hT, hinv.total]
  · rw [mul_bump, mul_bump]
    exact bump_le_bump hinv.payLo hc.1 v
  · rw [List.filter_append]
    by_cases hvu : v = b.bidder
    · subst hvu
      have hlen : (((acc.matched.filter (·.bidder == b.bidder)) ++ [b].filter (·.bidder == b.bidder)).length
          : Int) = ((acc.matched.filter (·.bidder == b.bidder)).length : Int) + 1 := by
        simp
      rw [bump_self, bump_self, hlen]
      exact Or.inr (payHi_step (hinv.payHi _) (Int.natCast_nonneg _) hpos hc.2)
    · have hbv : ¬ b.bidder = v := fun e => hvu e.symm
      rw [bump_ne _ _ _ v hvu, bump_ne _ _ _ v hvu]
      simpa [hbv] using hinv.payHi v
  · rw [bsum_snoc]
    exact bump_le_bump hinv.payRes hcr v

theorem matchStep_spec (a : Auction) (allowed : List Allowed) (B : List Acc) (p : Dec) (S : Int)
    (done : List Bid) (acc : MAcc) (b : Bid)
    (hB : B.Nodup) (hp : 0 < p)
    (hinv : SweepInv p allowed B a.payDenom done acc) (hb : BidOK a allowed B p b) :
    (S < totalOf p allowed B (done ++ [b]) ∧ matchStep p S acc b = .nofit) ∨
    (totalOf p allowed B (done ++ [b]) ≤ S ∧
      ∃ acc', matchStep p S acc b = .fit acc' ∧ SweepInv p allowed B a.payDenom (done ++ [b]) acc') := by
  have hq0 := hb.qty_nonneg hp
  have hT := totalOf_snoc p allowed B done b hq0 hB hb.inB
  have hr := hinv.rem b.bidder hb.listed
  rw [hinv.alloc] at hr
  -- `m`: what the bid gets, its quantity as far as the cap allows
  have hm0 : 0 ≤ min (qtyAt b p) (capOf allowed b.bidder - allocOf p allowed done b.bidder) :=
    Int.le_min.2 ⟨hq0, Int.sub_nonneg.2 (Int.min_le_right _ _)⟩
  rw [matchStep_eq p S acc b _ _ hb.bidQty_eq hr hm0, hT, hinv.total]
  generalize hm : min (qtyAt b p) (capOf allowed b.bidder - allocOf p allowed done b.bidder) = m at hm0 ⊢
  by_cases hS : totalOf p allowed B done + m > S
  · rw [if_pos hS]
    exact Or.inl ⟨hS, rfl⟩
  · rw [if_neg hS]
    refine Or.inr ⟨Int.not_lt.1 hS, _, rfl, ?_⟩
    by_cases hpos : m > 0
    · rw [if_pos hpos, ← hinv.alloc]
      exact hinv.take hB hp hb m hm.symm hpos
    · rw [if_neg hpos]
      exact hinv.skip hB hp hb (hm.trans (Int.le_antisymm (Int.not_lt.1 hpos) hm0))

theorem matchLoop_spec (a : Auction) (allowed : List Allowed) (B : List Acc) (p : Dec) (S : Int)
    (hB : B.Nodup) (hp : 0 < p) :
    ∀ (bs done : List Bid) (acc : MAcc), SweepInv p allowed B a.payDenom done acc →
      (∀ b ∈ bs, BidOK a allowed B p b) → acc.total ≤ S →
      (S < totalOf p allowed B (done ++ bs) ∧ matchLoop p S bs acc = .nofit) ∨
      (totalOf p allowed B (done ++ bs) ≤ S ∧
        ∃ acc', matchLoop p S bs acc = .fit acc' ∧ SweepInv p allowed B a.payDenom (done ++ bs) acc')
  | [], done, acc, hinv, _, hS => by
    right
    rw [List.append_nil]
    exact ⟨by rw [← hinv.total]; exact hS, acc, rfl, hinv⟩
  | b :: bs, done, acc, hinv, hbs, hS => by
    have hb := hbs b List.mem_cons_self
    have hbs' : ∀ c ∈ bs, BidOK a allowed B p c := fun c hc => hbs c (List.mem_cons_of_mem _ hc)
    have happ : done ++ b :: bs = (done ++ [b]) ++ bs := by simp
    rcases matchStep_spec a allowed B p S done acc b hB hp hinv hb with ⟨h1, h2⟩ | ⟨h1, acc', h2, h3⟩
    · left
      refine ⟨?_, by simp only [matchLoop, h2]⟩
      rw [happ]
      exact Int.lt_of_lt_of_le h1
        (totalOf_mono p allowed B _ bs (fun c hc => (hbs' c hc).qty_nonneg hp))
    · have := matchLoop_spec a allowed B p S hB hp bs (done ++ [b]) acc' h3 hbs'
        (by rw [h3.total]; exact h1)
      rw [happ]
      simpa only [matchLoop, h2] using this

/-! ### no panic -/

theorem matchStep_ne_panic (p : Dec) (S : Int) (acc : MAcc) (b : Bid)
    (hq : (bidQty b p).isSome) (hr : (acc.rem b.bidder).isSome) :
    matchStep p S acc b ≠ .panic ∧
    ∀ acc', matchStep p S acc b = .fit acc' → ∀ v, (acc.rem v).isSome → (acc'.rem v).isSome := by
  obtain ⟨q, hq⟩ := Option.isSome_iff_exists.1 hq
  obtain ⟨r, hr⟩ := Option.isSome_iff_exists.1 hr
  rw [matchStep_some p S acc b q r hq hr]
  by_cases hS : acc.total + min q r > S
  · rw [if_pos hS]
    exact ⟨nofun, nofun⟩
  · rw [if_neg hS]
    refine ⟨nofun, fun acc' h v hv => ?_⟩
    obtain rfl := MRes.fit.inj h
    -- only the bidder's own entry of `rem` is ever rewritten, and to a value
    by_cases hm : min q r > 0
    · rw [if_pos hm]
      show (if v = b.bidder then some (r - min q r) else acc.rem v).isSome
      by_cases hv' : v = b.bidder
      · rw [if_pos hv']; rfl
      · rw [if_neg hv']; exact hv
    · rw [if_neg hm]
      exact hv

theorem matchLoop_ne_panic (p : Dec) (S : Int) : ∀ (bs : List Bid) (acc : MAcc),
    (∀ b ∈ bs, (bidQty b p).isSome ∧ (acc.rem b.bidder).isSome) → matchLoop p S bs acc ≠ .panic
  | [], acc, _ => fun h => MRes.noConfusion h
  | b :: bs, acc, h => by
    have hb := h b List.mem_cons_self
    have hstep := matchStep_ne_panic p S acc b hb.1 hb.2
    unfold matchLoop
    cases hm : matchStep p S acc b with
    | panic => exact absurd hm hstep.1
    | nofit => exact fun h => MRes.noConfusion h
    | fit acc' =>
      simp only
      apply matchLoop_ne_panic p S bs acc'
      intro c hc
      have := h c (List.mem_cons_of_mem _ hc)
      exact ⟨this.1, hstep.2 acc' hm _ this.2⟩

/-! ### the loop on any list of bids -/

theorem matchLoop_append (p : Dec) (S : Int) (l1 l2 : List Bid) (acc : MAcc) :
    matchLoop p S (l1 ++ l2) acc =
      match matchLoop p S l1 acc with
      | .fit a => matchLoop p S l2 a
      | r => r := by
  induction l1 generalizing acc with
  | nil => simp [matchLoop]
  | cons b bs ih =>
    simp only [List.cons_append, matchLoop]
    cases matchStep p S acc b with
    | fit a => simp only [ih]
    | nofit => rfl
    | panic => rfl

theorem matchStep_matched_le (p : Dec) (S : Int) (acc acc' : MAcc) (b : Bid) (h : matchStep p S acc b = .fit acc') :
    acc.matched.length ≤ acc'.matched.length := by
  unfold matchStep at h
  split at h
  · simp only [] at h
    split at h
    · cases h
    · split at h <;> cases h <;> simp
  · cases h

theorem matchLoop_matched_le (p : Dec) (S : Int) (bs : List Bid) (acc acc' : MAcc) (h : matchLoop p S bs acc = .fit acc') :
    acc.matched.length ≤ acc'.matched.length := by
  induction bs generalizing acc with
  | nil => cases h; exact Nat.le_refl _
  | cons b bs ih =>
    unfold matchLoop at h
    cases hs : matchStep p S acc b with
    | panic => rw [hs] at h; cases h
    | nofit => rw [hs] at h; cases h
    | fit a1 =>
      rw [hs] at h
      exact Nat.le_trans (matchStep_matched_le p S acc a1 b hs) (ih a1 h)

/-! ### the sweep at a price, on a well-formed book -/

theorem BidOK.of_book (a : Auction) (bids : List Bid) (allowed : List Allowed) (p : Dec)
    (hw : BookWF a bids allowed) (b : Bid) (hb : b ∈ bids) (hpb : p ≤ b.price) :
    BidOK a allowed (biddersOf bids) p b :=
  { type := hw.types b hb, denom := hw.denoms b hb, price := hpb, amt := hw.amts b hb,
    listed := hw.listed b hb, inB := (mem_biddersOf bids b.bidder).2 ⟨b, hb, rfl⟩ }

theorem book_toPaying_nonneg (a : Auction) (bids : List Bid) (allowed : List Allowed)
    (hw : BookWF a bids allowed) (b : Bid) (hb : b ∈ bids) : 0 ≤ b.toPaying a.payDenom :=
  Int.le_of_lt (b.toPaying_pos _ (hw.amts b hb) (hw.prices b hb))

theorem allocOf_filter_eq (bids sorted : List Bid) (allowed : List Allowed) (hperm : sorted.Perm bids)
    (p : Dec) (u : Acc) :
    allocOf p allowed (sorted.filter (fun b => decide (p ≤ b.price))) u = cappedDemand bids allowed u p := by
  unfold allocOf cappedDemand
  rw [rawDemand_eq_bsum, bsum_perm _ (hperm.filter _)]

theorem totalOf_filter_eq (bids sorted : List Bid) (allowed : List Allowed) (hperm : sorted.Perm bids)
    (p : Dec) :
    totalOf p allowed (biddersOf bids) (sorted.filter (fun b => decide (p ≤ b.price))) =
      demand bids allowed p := by
  unfold totalOf demand
  exact congrArg List.sum (List.map_congr_left fun u _ => allocOf_filter_eq bids sorted allowed hperm p u)

/-- on a price-sorted arrangement the sweep at `p` runs over the bids priced at or above `p` -/
theorem matchAt_eq (p : Dec) {bids sorted : List Bid} (S : Int) (allowed : List Allowed)
    (hs : Arrangement bids sorted) :
    matchAt p sorted S allowed = matchLoop p S (sorted.filter (fun b => decide (p ≤ b.price)))
      { price := p, rem := capsOf allowed } := by
  unfold matchAt
  rw [takeWhile_eq_filter_of_desc p sorted hs.2]

theorem matchAt_spec (a : Auction) (bids sorted : List Bid) (allowed : List Allowed) (p : Dec)
    (hw : BookWF a bids allowed) (hs : Arrangement bids sorted) (hp : 0 < p) :
    (a.sellAmt < demand bids allowed p ∧ matchAt p sorted a.sellAmt allowed = .nofit) ∨
    (demand bids allowed p ≤ a.sellAmt ∧ ∃ acc, matchAt p sorted a.sellAmt allowed = .fit acc ∧
      SweepInv p allowed (biddersOf bids) a.payDenom
        (sorted.filter (fun b => decide (p ≤ b.price))) acc) := by
  rw [matchAt_eq p a.sellAmt allowed hs]
  have hperm := hs.1
  have hok : ∀ b ∈ sorted.filter (fun b => decide (p ≤ b.price)),
      BidOK a allowed (biddersOf bids) p b := by
    intro b hb
    have := List.mem_filter.1 hb
    exact BidOK.of_book a bids allowed p hw b (hperm.mem_iff.1 this.1) (by simpa using this.2)
  have := matchLoop_spec a allowed (biddersOf bids) p a.sellAmt (biddersOf_nodup bids) hp
    (sorted.filter (fun b => decide (p ≤ b.price))) [] { price := p, rem := capsOf allowed }
    (sweepInv_init p allowed _ a.payDenom hw.caps) hok (Int.le_of_lt hw.supply)
  rw [List.nil_append, totalOf_filter_eq bids sorted allowed hperm p] at this
  exact this

/-- on a well-formed book the sweep never hits a nil `math.Int` -/
theorem matchAt_ne_panic (a : Auction) (bids sorted : List Bid) (allowed : List Allowed) (p : Dec)
    (hw : BookWF a bids allowed) (hs : Arrangement bids sorted) :
    matchAt p sorted a.sellAmt allowed ≠ .panic := by
  rw [matchAt_eq p a.sellAmt allowed hs]
  apply matchLoop_ne_panic
  intro b hb
  have hb' : b ∈ bids := hs.1.mem_iff.1 (List.mem_filter.1 hb).1
  constructor
  · rw [bidQty_eq_some b p (hw.types b hb')]; rfl
  · show (capsOf allowed b.bidder).isSome
    rw [capsOf_eq allowed _ (hw.listed b hb')]; rfl

end Fundraising
