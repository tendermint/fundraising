import Fundraising.Spec.Invariants
import Fundraising.Proofs.Exec
import Fundraising.Proofs.DecLemmas
/-
  What each message handler does when it succeeds, once and in full.  For cancel, place and modify:
  `handler c … = .ok c'` ↔ the guards that held ∧ `Pays c xs b` (the bank calls `xs` went
  through and left the bank `b`) ∧ `c.Hears hook` ∧ `c' = c.wrote xs b hook args aid v'`, which is
  `((c.paid xs b).heard hook args).setView aid v'`.
  The two allow-list handlers make no bank call (`c' = (c.heard hook args).setView aid v'`); creation
  appends a record between its two hooks (`Ctx.addView`).
  Each equivalence is proved by normalising both sides with the primitives of Proofs/Exec.lean.
  An unfolded handler is a large term and every pass over it is dear.  So the statement-wise
  equivalences are applied from the outside in (`↓`: before `simp` descends into the continuation),
  the handler is normalised on its own side (`conv => lhs`) with those alone, and where the proof
  splits on the bid type the binders of the right side are resolved once, before the split.
-/
namespace Fundraising

/-! ### CancelAuction -/

def AView.cancelled (v : AView) : AView :=
  { v with a := { v.a with remaining := if v.a.type = .fixed then 0 else v.a.remaining,
                           status := .cancelled } }

/-- `CancelAuction` returns the whole balance of the selling escrow -/
def cancelXfer (c : Ctx) (aid : Nat) (v : AView) : Transfer :=
  ⟨.send, .sell aid, .user v.a.auctioneer, coinsOf v.a.sellDenom (c.s.bank (.sell aid) v.a.sellDenom)⟩

theorem cancelXfer_loc (c : Ctx) (aid : Nat) (v : AView) :
    ∀ t ∈ [cancelXfer c aid v], Frame.Loc aid t.src ∧ Frame.Loc aid t.dst := by
  simp [cancelXfer, Frame.loc_sell, Frame.loc_user]

/-- the whole balance is always covered: the call goes through, and this is the bank it leaves -/
theorem sendAll_cancel {c : Ctx} {aid : Nat} {v : AView} {b : Bank} :
    c.s.bank.sendAll [cancelXfer c aid v] = some b ↔
      b = c.s.bank.move (.sell aid) (.user v.a.auctioneer) v.a.sellDenom (c.s.bank (.sell aid) v.a.sellDenom) :=
  sendAll_one.trans (sendCoins_coinsOf.trans (and_iff_right (.inr (Int.le_refl _))))

/-- the guard `0 ≤ …` (here and in `placeBid_iff`, `createAuction_iff`): `mkCoins`, like `sdk.NewCoin`,
    panics on a negative amount -/
theorem cancelAuction_iff {c c' : Ctx} {signer : Acc} {aid : Nat} :
    cancelAuction c signer aid = .ok c' ↔
      ∃ v, c.s.views[aid]? = some v ∧ v.a.auctioneer = signer ∧ v.a.status = .standby ∧
        0 ≤ c.s.bank (.sell aid) v.a.sellDenom ∧ c.Hears "BeforeAuctionCanceled" ∧
        ∃ b, Pays c [cancelXfer c aid v] b ∧
          c' = c.wrote [cancelXfer c aid v] b "BeforeAuctionCanceled" [rNat aid, rAcc signer] aid
            v.cancelled := by
  unfold cancelAuction
  simp only [↓view_bind_ok, ↓check_bind_ok, ↓mkCoins_bind_ok, ↓bankCall_bind_ok, ↓hook_bind_ok, pure_ok, beq_iff_eq, Ctx.bal,
    hears_paid, cancelXfer, AView.cancelled, exists_and_guard, @eq_comm _ c']

/-! ### PlaceBid -/

theorem batch_guard {ty : AType} {g : Bool} : (ty != .batch || g) = true ↔ (ty = .batch → g = true) := by
  cases ty <;> simp

def AView.newBid (v : AView) (aid : Nat) (bidder : Acc) (t : BidType) (price : Dec) (denom : Denom)
    (amt : Int) : Bid :=
  ⟨aid, v.bidSeq + 1, bidder, t, price, denom, amt, false⟩

/-- `ValidateFixedPriceBid` / `ValidateBatchBid` for an allowed bidder with entry `ab` -/
def BidOk (v : AView) (ab : Allowed) (b : Bid) : Prop :=
  match b.type with
  | .fixed => v.a.type = .fixed ∧ (b.denom = v.a.payDenom ∨ b.denom = v.a.sellDenom) ∧
      b.price = v.a.startPrice ∧ b.toSelling v.a.payDenom ≤ v.a.remaining ∧
      bidderTotal v b.bidder + b.toSelling v.a.payDenom ≤ ab.cap
  | .worth => v.a.type = .batch ∧ b.denom = v.a.payDenom ∧ b.toSelling v.a.payDenom ≤ ab.cap
  | .many => v.a.type = .batch ∧ b.denom = v.a.sellDenom ∧ b.toSelling v.a.payDenom ≤ ab.cap

/-- the record after bid `b` was taken: a fixed-price bid is matched at once and comes off
    the remainder -/
def AView.placed (v : AView) (b : Bid) : AView :=
  { v with
    a := if b.type = .fixed then { v.a with remaining := v.a.remaining - b.toSelling v.a.payDenom } else v.a
    bids := v.bids ++
      [if b.type = .fixed then { b with matched := decide (b.toSelling v.a.payDenom > 0) } else b]
    bidSeq := v.bidSeq + 1 }

theorem AView.placed_eq (v : AView) (b : Bid) : ∃ (r : Int) (m : Bool), v.placed b =
    { v with a := { v.a with remaining := r }, bids := v.bids ++ [{ b with matched := m }],
             bidSeq := v.bidSeq + 1 } := by
  by_cases h : b.type = .fixed <;> simp only [AView.placed, h, if_true, if_false] <;> exact ⟨_, _, rfl⟩

theorem AView.placed_a (v : AView) (b : Bid) : ∃ r : Int, (v.placed b).a = { v.a with remaining := r } := by
  unfold AView.placed
  split <;> exact ⟨_, rfl⟩

theorem AView.placed_last (v : AView) (b : Bid) :
    ∃ b', (v.placed b).bids.getLast? = some b' ∧ bidHookArgs b' = bidHookArgs b := by
  refine ⟨_, List.getLast?_concat, ?_⟩
  split <;> rfl

/-- the bid fee, then the reservation in the paying denomination -/
def placeXfers (c : Ctx) (aid : Nat) (v : AView) (b : Bid) : List Transfer :=
  [⟨.pool, .user b.bidder, .pool, c.s.params.bidFee⟩,
   ⟨.send, .user b.bidder, .pay aid, coinsOf v.a.payDenom (b.toPaying v.a.payDenom)⟩]

theorem placeXfers_loc (c : Ctx) (aid : Nat) (v : AView) (b : Bid) :
    ∀ t ∈ placeXfers c aid v b, Frame.Loc aid t.src ∧ Frame.Loc aid t.dst := by
  simp [placeXfers, Frame.loc_user, Frame.loc_pool, Frame.loc_pay]

theorem placeBid_iff {c c' : Ctx} {bidder : Acc} {aid : Nat} {t : BidType} {price : Dec}
    {denom : Denom} {amt : Int} :
    placeBid c bidder aid t price denom amt = .ok c' ↔
      ∃ v ab, c.s.views[aid]? = some v ∧ v.a.status = .started ∧
        (v.a.type = .batch → v.a.minBid ≤ price) ∧ lookupAllowed v.allowed bidder = some ab ∧
        BidOk v ab (v.newBid aid bidder t price denom amt) ∧
        0 ≤ (v.newBid aid bidder t price denom amt).toPaying v.a.payDenom ∧ c.Hears "BeforeBidPlaced" ∧
        ∃ b, Pays c (placeXfers c aid v (v.newBid aid bidder t price denom amt)) b ∧
          c' = c.wrote (placeXfers c aid v (v.newBid aid bidder t price denom amt)) b
            "BeforeBidPlaced" (bidHookArgs (v.newBid aid bidder t price denom amt)) aid
              (v.placed (v.newBid aid bidder t price denom amt)) := by
  unfold placeBid Ctx.view
  cases hv : c.s.views[aid]? with
  | none => simp only [↓fail_bind_ok, reduceCtorEq, false_and, exists_false]
  | some v =>
    cases hab : lookupAllowed v.allowed bidder with
    | none =>
      simp only [↓Except.ok_bind, ↓check_bind_ok, hab, ↓fail_bind_ok, and_false, Option.some.injEq, exists_and_left,
        exists_eq_left', reduceCtorEq, false_and, exists_false]
    | some ab =>
      conv => rhs; simp only [Option.some.injEq, exists_and_left, exists_eq_left', hab]
      cases t <;>
      (conv => lhs; simp only [↓Except.ok_bind, hab, bind_assoc, pure_bind, ↓check_bind_ok, ↓mkCoins_bind_ok,
        ↓bankCall_bind_ok, ↓hook_bind_ok, pure_ok, hears_paid, paid_paid, List.cons_append, List.nil_append,
        exists_and_guard, pays_then_pays]) <;>
      simp only [beq_iff_eq, BidOk, AView.newBid, Bool.or_eq_true, Bool.not_eq_true', decide_eq_false_iff_not,
        Int.not_lt, gt_iff_lt, ↓batch_guard, AView.placed, reduceCtorEq, if_true, if_false, bidHookArgs,
        placeXfers, @eq_comm _ c', and_assoc]
      -- `fixed` and `many` are closed; `worth` is left: the code reserves `amt` of `denom`, which the
      -- check before made the paying denomination
      constructor <;>
      · rintro ⟨hst, hmin, g1, rfl, h⟩
        refine ⟨hst, hmin, g1, rfl, ?_⟩
        simpa [Bid.toPaying] using h

/-! ### ModifyBid -/

/-- what `ModifyBid` adds to the reservation, and in which denomination: the increase of the
    offered coin (`worth`), of the rounded-up price of the offered quantity (`many`) -/
def modifyDiff (v : AView) (bid : Bid) (price : Dec) (denom : Denom) (amt : Int) : Denom × Int :=
  match bid.type with
  | .worth => (denom, amt - bid.amt)
  | .many => (v.a.payDenom, Dec.truncInt
      (Dec.ceil (Dec.mul (Dec.ofInt amt) price) - Dec.ceil (Dec.mul (Dec.ofInt bid.amt) bid.price)))
  | .fixed => (v.a.payDenom, 0)

def modifyXfers (aid : Nat) (bidder : Acc) (diff : Denom × Int) : List Transfer :=
  if 0 < diff.2 then [⟨.send, .user bidder, .pay aid, [⟨diff.1, diff.2⟩]⟩] else []

def AView.modified (v : AView) (bidId : Nat) (b' : Bid) : AView :=
  { v with bids := v.bids.map (fun b => if b.id == bidId then b' else b) }

theorem modifyXfers_loc (aid : Nat) (bidder : Acc) (diff : Denom × Int) :
    ∀ t ∈ modifyXfers aid bidder diff, Frame.Loc aid t.src ∧ Frame.Loc aid t.dst := by
  unfold modifyXfers
  split <;> simp [Frame.loc_user, Frame.loc_pay]

theorem sendAll_modify {bank b : Bank} {aid : Nat} {bidder : Acc} {d : Denom} {D : Int} (hD : 0 ≤ D) :
    bank.sendAll (modifyXfers aid bidder (d, D)) = some b ↔
      (0 < D → D ≤ bank (.user bidder) d) ∧ b = bank.move (.user bidder) (.pay aid) d D := by
  unfold modifyXfers
  split
  · rename_i hpos
    have hne : ¬ D = 0 := by simp only at hpos; omega
    rw [sendAll_one, show ([⟨d, D⟩] : List Coin) = coinsOf d D from (if_neg hne).symm, sendCoins_coinsOf]
    simp only [hne, false_or, hpos, true_imp_iff]
  · rename_i hpos
    obtain rfl : D = 0 := by simp only at hpos; omega
    simp [sendAll_nil, move_zero, eq_comm]

/-- in a well-formed batch auction the bank call of `ModifyBid` is for the growth of the bid's
    reservation, in the paying denomination, and (the checks passed) that is not negative -/
theorem modifyDiff_wf {v : AView} {bid : Bid} {price : Dec} {denom : Denom} {amt : Int}
    (hB : BidWF v.a v.allowed bid) (hty : v.a.type = .batch) (hne : v.a.sellDenom ≠ v.a.payDenom)
    (hden : bid.denom = denom) (hamt : bid.amt ≤ amt)
    (hpanic : bid.type = .many → 0 ≤ (modifyDiff v bid price denom amt).2) :
    modifyDiff v bid price denom amt = (v.a.payDenom,
      ({ bid with price := price, amt := amt } : Bid).toPaying v.a.payDenom - bid.toPaying v.a.payDenom) ∧
    0 ≤ (modifyDiff v bid price denom amt).2 := by
  rcases hB.batch hty with ⟨ht, hd⟩ | ⟨ht, hd⟩
  · have e : modifyDiff v bid price denom amt = (v.a.payDenom, amt - bid.amt) := by
      simp [modifyDiff, ht, ← hden, hd]
    refine ⟨by simp [e, Bid.toPaying, hd], ?_⟩
    rw [e]; show 0 ≤ amt - bid.amt; omega
  · have hd' : bid.denom ≠ v.a.payDenom := hd ▸ hne
    exact ⟨by simp [modifyDiff, ht, Dec.truncInt_ceil_sub, Bid.toPaying, hd'], hpanic ht⟩

theorem modifyBid_iff {c c' : Ctx} {bidder : Acc} {aid bidId : Nat} {price : Dec} {denom : Denom}
    {amt : Int} :
    modifyBid c bidder aid bidId price denom amt = .ok c' ↔
      ∃ v bid, c.s.views[aid]? = some v ∧ v.a.status = .started ∧ v.a.type = .batch ∧
        v.bids.find? (·.id == bidId) = some bid ∧ bid.bidder = bidder ∧ v.a.minBid ≤ price ∧
        bid.denom = denom ∧ (bid.price ≤ price ∧ bid.amt ≤ amt) ∧ (price ≠ bid.price ∨ amt ≠ bid.amt) ∧
        (bid.type = .many → 0 ≤ (modifyDiff v bid price denom amt).2) ∧ c.Hears "BeforeBidModified" ∧
        ∃ b, Pays c (modifyXfers aid bidder (modifyDiff v bid price denom amt)) b ∧
          c' = c.wrote (modifyXfers aid bidder (modifyDiff v bid price denom amt)) b
            "BeforeBidModified" (bidHookArgs { bid with price := price, amt := amt }) aid
              (v.modified bidId { bid with price := price, amt := amt }) := by
  unfold modifyBid Ctx.view
  cases hv : c.s.views[aid]? with
  | none => simp only [↓fail_bind_ok, reduceCtorEq, false_and, exists_false]
  | some v =>
    cases hfind : v.bids.find? (·.id == bidId) with
    | none =>
      simp only [↓Except.ok_bind, ↓check_bind_ok, hfind, ↓fail_bind_ok, and_false, Option.some.injEq, exists_and_left,
        exists_eq_left', reduceCtorEq, false_and, exists_false]
    | some bid =>
      conv => rhs; simp only [Option.some.injEq, exists_and_left, exists_eq_left', hfind]
      cases hbt : bid.type <;>
      (conv => lhs; simp only [↓Except.ok_bind, hfind, hbt, pure_bind, ↓check_bind_ok, ↓bankCallIf_bind_ok,
        ↓ite_fail_bind_ok, ↓hook_bind_ok, pure_ok, hears_paid, exists_and_guard]) <;>
      simp only [beq_iff_eq, Bool.not_eq_true', Bool.or_eq_false_iff, Bool.and_eq_false_iff,
        decide_eq_false_iff_not, Int.not_lt, gt_iff_lt, ne_eq, modifyDiff, modifyXfers, AView.modified, hbt,
        reduceCtorEq, false_imp_iff, true_imp_iff, true_and, Int.lt_irrefl, if_false, Ctx.wrote, pays_nil,
        paid_nil, @eq_comm _ c', and_assoc, exists_eq_left]

/-! ### AddAllowedBidders / UpdateAllowedBidder -/

theorem addLoop_iff {c : Ctx} {sellAmt : Int} : ∀ {abs : List AllowedArg} {l l' : List Allowed},
    addLoop c sellAmt abs l = .ok l' ↔
      (∀ ab ∈ abs, validAcc ab.bidder = true ∧ 0 < ab.cap ∧ ab.cap ≤ sellAmt) ∧
        l' = abs.foldl (fun l ab => setAllowed l ⟨ab.bidder, ab.cap⟩) l
  | [], l, l' => by simp [addLoop, pure_ok, @eq_comm _ l]
  | _ :: rest, _, _ => by
    simp only [addLoop, check_bind_ok, addLoop_iff (abs := rest), List.forall_mem_cons, List.foldl_cons,
      decide_eq_true_eq, Bool.not_eq_true', decide_eq_false_iff_not, gt_iff_lt, Int.not_lt, and_assoc]

theorem addAllowedBidders_iff {c c' : Ctx} {aid : Nat} {abs : List AllowedArg} :
    addAllowedBidders c aid abs = .ok c' ↔
      abs ≠ [] ∧ ∃ v, c.s.views[aid]? = some v ∧ c.Hears "BeforeAllowedBiddersAdded" ∧
        (∀ ab ∈ abs, validAcc ab.bidder = true ∧ 0 < ab.cap ∧ ab.cap ≤ v.a.sellAmt) ∧
        c' = (c.heard "BeforeAllowedBiddersAdded" (rAllowedArgs abs)).setView aid
          { v with allowed := abs.foldl (fun l ab => setAllowed l ⟨ab.bidder, ab.cap⟩) v.allowed } := by
  unfold addAllowedBidders
  simp only [view_bind_ok, check_bind_ok, hook_bind_ok]
  simp only [bind_ok, pure_ok, addLoop_iff, Bool.not_eq_true', List.isEmpty_eq_false_iff, ne_eq, @eq_comm _ c',
    and_assoc, exists_and_left, exists_eq_left]

theorem updateAllowedBidder_iff {c c' : Ctx} {aid : Nat} {bidder : Acc} {cap : Int} :
    updateAllowedBidder c aid bidder cap = .ok c' ↔
      ∃ v, c.s.views[aid]? = some v ∧ (lookupAllowed v.allowed bidder).isSome = true ∧ 0 < cap ∧
        c.Hears "BeforeAllowedBidderUpdated" ∧
        c' = (c.heard "BeforeAllowedBidderUpdated" [rNat aid, rAcc bidder, rInt cap]).setView aid
          { v with allowed := setAllowed v.allowed { bidder := bidder, cap := cap } } := by
  unfold updateAllowedBidder
  simp only [view_bind_ok, check_bind_ok, hook_bind_ok, pure_ok, decide_eq_true_eq, gt_iff_lt, @eq_comm _ c']

/-! ### CreateFixedPriceAuction / CreateBatchAuction -/

def CreateMsg.view (m : CreateMsg) (id : Nat) (now : Int) : AView :=
  { a :=
    { id := id, type := m.type, auctioneer := m.auctioneer, sellDenom := m.sellDenom,
      sellAmt := m.sellAmt, payDenom := m.payDenom, startPrice := m.startPrice,
      startTime := m.startTime, endTimes := [m.endTime], schedules := m.schedules,
      status := if m.startTime ≤ now then Status.started else Status.standby,
      remaining := if m.type = .fixed then m.sellAmt else 0,
      minBid := if m.type = .batch then m.minBid else 0,
      matchedPrice := 0,
      maxExt := if m.type = .batch then m.maxExt else 0,
      rate := if m.type = .batch then m.rate else 0 } }

def createXfers (c : Ctx) (m : CreateMsg) : List Transfer :=
  [⟨.pool, .user m.auctioneer, .pool, c.s.params.creationFee⟩,
   ⟨.send, .user m.auctioneer, .sell c.s.views.length, coinsOf m.sellDenom m.sellAmt⟩]

def CreateMsg.before (m : CreateMsg) : String :=
  if m.type = .fixed then "BeforeFixedPriceAuctionCreated" else "BeforeBatchAuctionCreated"

def CreateMsg.after (m : CreateMsg) : String :=
  if m.type = .fixed then "AfterFixedPriceAuctionCreated" else "AfterBatchAuctionCreated"

/-- `Auction.Set` of a new id -/
def Ctx.addView (c : Ctx) (v : AView) : Ctx := { c with s := { c.s with views := c.s.views ++ [v] } }

theorem createXfers_loc (c : Ctx) (m : CreateMsg) :
    ∀ t ∈ createXfers c m, Frame.Loc c.s.views.length t.src ∧ Frame.Loc c.s.views.length t.dst := by
  simp [createXfers, Frame.loc_user, Frame.loc_pool, Frame.loc_sell]

theorem createAuction_iff {c c' : Ctx} {m : CreateMsg} :
    createAuction c m = .ok c' ↔
      m.endTime ≥ c.s.now ∧ m.schedules.length ≤ 100 ∧ (m.type = .batch → m.maxExt ≤ 30) ∧ 0 ≤ m.sellAmt ∧
        c.Hears m.before ∧ c.Hears m.after ∧
        ∃ b, Pays c (createXfers c m) b ∧
          c' = ((((c.paid (createXfers c m) b).heard m.before (createHookArgs m none)).addView
            (m.view c.s.views.length c.s.now)).heard m.after (createHookArgs m (some c.s.views.length))) := by
  unfold createAuction
  simp only [↓check_bind_ok, ↓mkCoins_bind_ok, ↓bankCall_bind_ok, ↓hook_bind_ok, hook_iff, hears_paid, paid_paid,
    List.cons_append, List.nil_append, exists_and_guard, pays_then_pays]
  simp only [Bool.not_eq_true', decide_eq_false_iff_not, decide_eq_true_eq, Int.not_lt, gt_iff_lt, ge_iff_le,
    ↓batch_guard, CreateMsg.before, CreateMsg.after, CreateMsg.view, createXfers, Ctx.addView, Ctx.heard,
    Ctx.paid, Ctx.Hears, exists_and_guard, @eq_comm _ c']
  exact Iff.rfl

/-! ### the message server -/

theorem handle_addAllowed_iff {c c' : Ctx} {aid : Nat} {ab : AllowedArg} :
    handle c (.addAllowed aid ab) = .ok c' ↔
      c.s.enableAdd = true ∧ addAllowedBidders c aid [ab] = .ok c' := by
  simp only [handle, check_bind_ok]

theorem handle_updateParams_iff {c c' : Ctx} {signer : Acc} {p : Params} :
    handle c (.updateParams signer p) = .ok c' ↔
      validAcc signer = true ∧ signer = AUTHORITY ∧ validCoins p.creationFee = true ∧
        validCoins p.bidFee = true ∧ c' = { c with s := { c.s with params := p } } := by
  simp only [handle, check_bind_ok, pure_ok, beq_iff_eq, Bool.and_eq_true, and_assoc, @eq_comm _ c']

theorem handle_place_none {c c' : Ctx} {bidder : Acc} {aid : Nat} {price : Dec} {denom : Denom}
    {amt : Int} : handle c (.place bidder aid none price denom amt) = .ok c' ↔ False := fail_ok

/-- every served message reaches one of the keeper's handlers, or sets the parameters -/
theorem handle_cases {P : Msg → Ctx → Prop} {c c' : Ctx} {m : Msg} (h : handle c m = .ok c')
    (create : ∀ m', createAuction c m' = .ok c' → P (.create m') c')
    (cancel : ∀ signer aid, cancelAuction c signer aid = .ok c' → P (.cancel signer aid) c')
    (place : ∀ bidder aid t price denom amt, placeBid c bidder aid t price denom amt = .ok c' →
      P (.place bidder aid (some t) price denom amt) c')
    (modify : ∀ bidder aid bidId price denom amt, modifyBid c bidder aid bidId price denom amt = .ok c' →
      P (.modify bidder aid bidId price denom amt) c')
    (add : ∀ aid ab, c.s.enableAdd = true → addAllowedBidders c aid [ab] = .ok c' → P (.addAllowed aid ab) c')
    (params : ∀ signer p, signer = AUTHORITY → validCoins p.creationFee = true → validCoins p.bidFee = true →
      P (.updateParams signer p) { c with s := { c.s with params := p } }) : P m c' := by
  cases m with
  | create m' => exact create m' h
  | cancel signer aid => exact cancel signer aid h
  | place bidder aid t price denom amt =>
    cases t with
    | none => exact (handle_place_none.mp h).elim
    | some t => exact place bidder aid t price denom amt h
  | modify bidder aid bidId price denom amt => exact modify bidder aid bidId price denom amt h
  | addAllowed aid ab => exact add aid ab (handle_addAllowed_iff.mp h).1 (handle_addAllowed_iff.mp h).2
  | updateParams signer p =>
    obtain ⟨-, h1, h2, h3, rfl⟩ := handle_updateParams_iff.mp h
    exact params signer p h1 h2 h3

end Fundraising
