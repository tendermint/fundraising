import Fundraising.Proofs.OpsMsgs
import Fundraising.Proofs.OpsBlock
/-
  C08 / C09 / C13 / C16 — what a successful block does to one auction.  A block is seen from
  auction `i` (`block_at`, from `blockLoop_at` of Proofs/OpsBlock.lean): the iteration for `i`
  starts from the record `i` had before the block, what it writes is what the block leaves, and
  the transfers of the other iterations are other auctions' (`Own`).  What that iteration does
  is said once per status (`blockStep_standby`, `blockStep_started`, `blockStep_vesting`,
  `blockStep_terminal`) in terms of the record it leaves and the transfers it logs; the theorems
  the Props files cite are these, with the block's transfers filtered on the escrows of `i`
  (`filter_segment`).
-/
namespace Fundraising.ProgressInv

/-- the transfers in an effect log: it has the body of `xfersOf`; no other theorem uses it or `xf_nil` -/
def xf (effs : List Eff) : List Transfer :=
  effs.filterMap (fun e => match e with | .xfer t => some t | .hook .. => none)

theorem xf_nil : xf [] = [] := rfl

/-- the status a settlement leaves, by whether there is a schedule; no other theorem uses it -/
theorem Settled.status {aid : Nat} {v w : AView} {R : Int} (h : Settled aid v R w) :
    (v.a.schedules = [] → w.a.status = .finished) ∧ (v.a.schedules ≠ [] → w.a.status = .vesting) := by
  refine ⟨fun e => ?_, fun e => ?_⟩
  · rw [h.1 e]
  · obtain ⟨_, _, rfl⟩ := h.2 e; rfl

theorem Settled.vesting {aid : Nat} {v0 w : AView} {R : Int} (h : Settled aid v0 R w)
    (hvq : v0.vqs = []) (hsched : (v0.a.schedules.map (·.release)).Pairwise (· < ·)) :
    (v0.a.schedules = [] → w.a.status = .finished ∧ w.vqs = []) ∧
    (v0.a.schedules ≠ [] → w.a.status = .vesting ∧
      ∃ parts, splitLoop R v0.a.schedules R = some parts ∧
        w.vqs.map (fun q => (q.release, q.amt)) = parts ∧
        (∀ q ∈ w.vqs, q.released = false ∧ q.denom = v0.a.payDenom ∧ q.auctioneer = v0.a.auctioneer)) := by
  rcases h.cases hvq hsched with ⟨e, rfl⟩ | ⟨e, parts, hsp, rfl⟩
  · exact ⟨fun _ => ⟨rfl, hvq⟩, fun hne => absurd e hne⟩
  · refine ⟨fun e0 => absurd e0 e, fun _ => ⟨rfl, parts, hsp, ?_, ?_⟩⟩
    · show (parts.map (vqOf aid v0.a)).map _ = parts
      rw [List.map_map]
      exact (List.map_congr_left (fun p _ => rfl)).trans (List.map_id _)
    · intro q hq
      obtain ⟨p, _, rfl⟩ := List.mem_map.mp hq
      exact ⟨rfl, rfl, rfl⟩

/-! ### one block seen from one auction -/

/-- `blockLoop_at` for `BeginBlocker`, whose indices are `List.range` -/
theorem beginBlock_at {c0 c' : Ctx} {t : Int} (h : beginBlock c0 t = .ok c') (i : Nat) (v : AView)
    (hv : c0.s.views[i]? = some v) :
    ∃ c1 c2 pre seg post, blockStep c1 i = .ok c2 ∧ c1.s.views[i]? = some v ∧ c1.s.now = t ∧
      c'.s.views[i]? = c2.s.views[i]? ∧ c2.effs = c1.effs ++ seg ∧
      c'.effs = c0.effs ++ pre ++ seg ++ post ∧
      (∀ x ∈ xfersOf pre ++ xfersOf post, ∃ j w, j ≠ i ∧ c0.s.views[j]? = some w ∧ Own j w.a.id x) := by
  obtain ⟨c1, c2, pre, seg, post, hstep, rA, rS, rC, hv1, hfin, hfor⟩ :=
    blockLoop_at h List.nodup_range (List.mem_range.mpr (lt_of_getElem? hv))
  exact ⟨c1, c2, pre, seg, post, hstep, hv1.trans hv, rA.now, hfin, rS.effs,
    by rw [rC.effs, rS.effs, rA.effs], hfor⟩

theorem block_at (st : State) (t : Int) (hok : (step st (.block t)).1.res = .ok) (i : Nat) (v v' : AView)
    (hv : st.core.views[i]? = some v) (hv' : (step st (.block t)).2.core.views[i]? = some v') :
    ∃ c c' pre seg post, blockStep c i = .ok c' ∧ c.s.views[i]? = some v ∧ c.s.now = t ∧
      c'.s.views[i]? = some v' ∧ c'.effs = c.effs ++ seg ∧
      (step st (.block t)).1.effs = pre ++ seg ++ post ∧
      (∀ x ∈ xfersOf pre ++ xfersOf post, ∃ j w, j ≠ i ∧ st.core.views[j]? = some w ∧ Own j w.a.id x) := by
  obtain ⟨cb, hb, hr⟩ := step_block_ok hok
  obtain ⟨c, c', pre, seg, post, h1, h2, h3, h4, h5, h6, h7⟩ := beginBlock_at hb i v hv
  rw [hr] at hv' ⊢
  exact ⟨c, c', pre, seg, post, h1, h2, h3, by rw [← h4]; exact hv', h5, h6, h7⟩

theorem filter_segment (P : Transfer → Bool) (pre seg post : List Eff)
    (hf : ∀ x ∈ xfersOf pre ++ xfersOf post, P x = false) (hs : ∀ x ∈ xfersOf seg, P x = true) :
    (xfersOf (pre ++ seg ++ post)).filter P = xfersOf seg := by
  rw [xfersOf_append, xfersOf_append, List.filter_append, List.filter_append,
    (List.filter_eq_nil_iff (l := xfersOf pre)).2 (fun x hx => by simp [hf x (List.mem_append_left _ hx)]),
    (List.filter_eq_nil_iff (l := xfersOf post)).2 (fun x hx => by simp [hf x (List.mem_append_right _ hx)]),
    List.filter_eq_self.2 hs, List.nil_append, List.append_nil]

/-- the iteration of another index debits no escrow of auction `i`: not its vesting escrow, and
    not its selling and paying escrow when the record at that index carries its key -/
theorem Own.foreign {i j id : Nat} {x : Transfer} (h : Own j id x) (hj : j ≠ i) :
    x.src ≠ .vest i ∧ (id = j → ¬ (x.src = .sell i ∨ x.src = .pay i)) := by
  refine ⟨?_, fun hid => ?_⟩
  · rcases h with ⟨h | h | h | h, _⟩ | ⟨h, _⟩ <;> rw [h] <;> simp [hj]
  · subst hid
    rcases h with ⟨h | h | h | h, _⟩ | ⟨h, _⟩ <;> rw [h] <;> simp [hj]

theorem filter_settle {i : Nat} {views : List AView} {v : AView} {pre seg post : List Eff}
    {mi : MInfo} {S R : Int}
    (hids : ∀ (j : Nat) (w : AView), views[j]? = some w → w.a.id = j) (hv : views[i]? = some v)
    (hfor : ∀ x ∈ xfersOf pre ++ xfersOf post, ∃ j w, j ≠ i ∧ views[j]? = some w ∧ Own j w.a.id x)
    (hx : xfersOf seg = settleXfers i v mi S R) :
    (xfersOf (pre ++ seg ++ post)).filter (fun x => x.src = .sell i ∨ x.src = .pay i) =
      settleXfers i v mi S R := by
  rw [← hx]
  refine filter_segment _ pre seg post (fun x hm => ?_) (fun x hm => ?_)
  · obtain ⟨j, w, hj, hw, ho⟩ := hfor x hm
    exact decide_eq_false ((Own.foreign ho hj).2 (hids j w hw))
  · rw [hx] at hm
    have hsrc := (settleXfers_ends x hm).elim (·.1) fun h => Or.inr (Or.inr h.1)
    rw [hids i v hv] at hsrc
    exact decide_eq_true (hsrc.imp_right (fun h => h.elim id id))

/-! ### the iteration for an auction, by its status: the record it leaves, the transfers it logs -/

theorem blockStep_standby {c c' : Ctx} {aid : Nat} {v v' : AView} (h : blockStep c aid = .ok c')
    (hv : c.s.views[aid]? = some v) (hv' : c'.s.views[aid]? = some v') (hs : v.a.status = .standby) :
    (v.a.startTime ≤ c.s.now → v' = { v with a := { v.a with status := .started } }) ∧
    (c.s.now < v.a.startTime → v' = v) := by
  rcases (blockStep_iff hv).mp h with ⟨rfl, hlt, _⟩ | ⟨_, hle, rfl⟩ | ⟨e, _⟩ | ⟨e, _⟩
  · obtain rfl : v = v' := Option.some.inj (hv.symm.trans hv')
    exact ⟨fun hle => absurd (hlt hs) (by omega), fun _ => rfl⟩
  · rw [setView_views, getElem?_set_of_get hv] at hv'
    cases hv'
    exact ⟨fun _ => rfl, fun hlt => absurd hle (by omega)⟩
  · rw [hs] at e; cases e
  · rw [hs] at e; cases e

theorem blockStep_terminal {c c' : Ctx} {aid : Nat} {v : AView} (h : blockStep c aid = .ok c')
    (hv : c.s.views[aid]? = some v) (hs : v.a.status = .finished ∨ v.a.status = .cancelled) :
    c' = c := by
  rcases (blockStep_iff hv).mp h with ⟨rfl, _⟩ | ⟨e, _⟩ | ⟨e, _⟩ | ⟨e, _⟩
  · rfl
  all_goals rcases hs with hs | hs <;> rw [hs] at e <;> cases e

/-- an open auction: left alone before its end time; at or after it a batch auction may be
    extended; otherwise the record `v₁` is settled, with the matched price `mp` written into it
    and the matching `mi` paid out, as `CloseFixedPriceAuction` or `CloseBatchAuction` has them -/
theorem blockStep_started {c c' : Ctx} {aid : Nat} {v v' : AView} {seg : List Eff}
    (h : blockStep c aid = .ok c') (hv : c.s.views[aid]? = some v) (hv' : c'.s.views[aid]? = some v')
    (he : c'.effs = c.effs ++ seg) (hs : v.a.status = .started) :
    (c.s.now < v.a.lastEnd ∧ v' = v) ∨
    (v.a.lastEnd ≤ c.s.now ∧ v.a.type = .batch ∧ ∃ mi, calcBatch v.a v.bids v.allowed = some mi ∧
      extDecision v mi ∧ v' = (markBids v mi).extended c.s.params.period) ∨
    (v.a.lastEnd ≤ c.s.now ∧ ∃ v₁ mp mi S R,
      ((v.a.type = .fixed ∧ v = v₁ ∧ mp = v.a.matchedPrice ∧ mi = calcFixed v.a v.bids) ∨
       (v.a.type = .batch ∧ calcBatch v.a v.bids v.allowed = some mi ∧ ¬ extDecision v mi ∧
        v₁ = markBids v mi ∧ mp = if mi.total > 0 then mi.price else 0)) ∧
      v₁.a = v.a ∧ v₁.vqs = v.vqs ∧
      0 ≤ R ∧ Settled aid (v₁.priced mp) R v' ∧ xfersOf seg = settleXfers aid v mi S R) := by
  have settled : ∀ {v₁ : AView} {mp : Dec} {mi : MInfo} {S R : Int} {w : AView},
      Settlement c c' aid v₁ mp mi S R w →
      0 ≤ R ∧ Settled aid (v₁.priced mp) R v' ∧ xfersOf seg = settleXfers aid v₁ mi S R := fun st => by
    obtain rfl := Option.some.inj ((st.get hv).symm.trans hv')
    rw [List.append_cancel_left (he.symm.trans st.ran.effs)]
    exact ⟨st.proceedsNonneg, st.view, xfersOf_settleEffs ..⟩
  rcases (blockStep_iff hv).mp h with ⟨rfl, _, hlt, _⟩ | ⟨e, _⟩ | ⟨_, _, hdue, hc⟩ | ⟨e, _⟩
  · exact Or.inl ⟨(hlt hs).2, Option.some.inj (hv'.symm.trans hv)⟩
  · rw [hs] at e; cases e
  · rcases hc with ⟨ht, hc⟩ | ⟨ht, hc⟩
    · obtain ⟨S, R, w, st⟩ := closeFixed_ok hc hv
      exact Or.inr (Or.inr ⟨hdue, v, _, _, S, R, Or.inl ⟨ht, rfl, rfl, rfl⟩, rfl, rfl, settled st⟩)
    · obtain ⟨mi, hmi, hext, hset⟩ := closeBatch_ok hc hv
      by_cases hde : extDecision v mi
      · rw [hext hde, setView_views, getElem?_set_of_get hv] at hv'
        exact Or.inr (Or.inl ⟨hdue, ht, mi, hmi, hde, (Option.some.inj hv').symm⟩)
      · obtain ⟨S, R, w, st⟩ := hset hde
        exact Or.inr (Or.inr ⟨hdue, _, _, mi, S, R, Or.inr ⟨ht, hmi, hde, rfl, rfl⟩, rfl, rfl, settled st⟩)
  · rw [hs] at e; cases e

section
open EscrowInv (due rel)

theorem blockStep_vesting {c c' : Ctx} {aid : Nat} {v v' : AView} {seg : List Eff}
    (h : blockStep c aid = .ok c') (hv : c.s.views[aid]? = some v) (hv' : c'.s.views[aid]? = some v')
    (he : c'.effs = c.effs ++ seg) (hs : v.a.status = .vesting)
    (hsorted : (v.vqs.map (·.release)).Pairwise (· < ·)) :
    v'.vqs = v.vqs.map (fun q => if q.release ≤ c.s.now ∧ q.released = false then { q with released := true } else q) ∧
    xfersOf seg = (v.vqs.filter (fun q => decide (q.release ≤ c.s.now) && !q.released)).map
      (relXfer aid v.a.auctioneer) ∧
    (v'.a.status = .finished ↔ ∃ q, v.vqs.getLast? = some q ∧ q.release ≤ c.s.now ∧ q.released = false) ∧
    (v'.a.status = .finished ∨ v'.a.status = .vesting) := by
  have hr : releaseVesting c aid = .ok c' := by
    rcases (blockStep_iff hv).mp h with ⟨_, _, _, hne⟩ | ⟨e, _⟩ | ⟨e, _⟩ | ⟨_, hr⟩
    · exact absurd hs hne
    · rw [hs] at e; cases e
    · rw [hs] at e; cases e
    · exact hr
  obtain ⟨_, _, r, hviews⟩ := releaseVesting_ok hr hv
  rw [hviews hsorted, getElem?_set_of_get hv] at hv'
  obtain rfl := Option.some.inj hv'
  rw [List.append_cancel_left (he.symm.trans r.effs)]
  refine ⟨List.map_congr_left fun q _ => by simp [rel, due], xfersOf_map_xfer _, ?_, ?_⟩
  · show (if v.vqs.getLast?.any (due c.s.now) then Status.finished else v.a.status) = .finished ↔ _
    rw [hs]
    cases v.vqs.getLast? with
    | none => simp
    | some q => simp [due]
  · show (if v.vqs.getLast?.any (due c.s.now) then Status.finished else v.a.status) = .finished ∨ _
    split
    · exact Or.inl rfl
    · exact Or.inr ((if_neg ‹_›).trans hs)

end

end Fundraising.ProgressInv

namespace Fundraising
open ProgressInv

/-- the core a block starts from; no other theorem uses it -/
def atBlock (st : State) (t : Int) : Core := { st.core with now := t }

/-! ### the lifecycle, block by block -/

theorem block_opens (st : State) (t : Int) (hok : (step st (.block t)).1.res = .ok)
    (i : Nat) (v v' : AView) (hv : st.core.views[i]? = some v)
    (hv' : (step st (.block t)).2.core.views[i]? = some v') (hs : v.a.status = .standby) :
    (v.a.startTime ≤ t → v' = { v with a := { v.a with status := .started } }) ∧
    (t < v.a.startTime → v' = v) := by
  obtain ⟨c, c', _, _, _, hstep, hv1, rfl, hv2, _⟩ := block_at st _ hok i v v' hv hv'
  exact blockStep_standby hstep hv1 hv2 hs

theorem block_closes (st : State) (t : Int) (hok : (step st (.block t)).1.res = .ok)
    (i : Nat) (v v' : AView) (hv : st.core.views[i]? = some v)
    (hv' : (step st (.block t)).2.core.views[i]? = some v') (hs : v.a.status = .started) :
    (v.a.lastEnd ≤ t →
      (v'.a.status = .vesting ∨ v'.a.status = .finished) ∨
      (v'.a.status = .started ∧ v.a.type = .batch ∧ v'.a.endTimes.length = v.a.endTimes.length + 1)) ∧
    (t < v.a.lastEnd → v' = v) := by
  obtain ⟨c, c', _, seg, _, hstep, hv1, rfl, hv2, he, _⟩ := block_at st _ hok i v v' hv hv'
  rcases blockStep_started hstep hv1 hv2 he hs with
    ⟨hlt, rfl⟩ | ⟨hdue, hty, mi, _, _, rfl⟩ | ⟨hdue, _, _, _, _, _, _, _, _, _, hS, _⟩
  · exact ⟨fun hle => absurd hle (by omega), fun _ => rfl⟩
  · refine ⟨fun _ => Or.inr ⟨hs, hty, ?_⟩, fun hlt => absurd hdue (by omega)⟩
    show (v.a.endTimes ++ [_]).length = _
    simp
  · exact ⟨fun _ => Or.inl hS.status_or, fun hlt => absurd hdue (by omega)⟩

theorem block_terminal (st : State) (t : Int) (i : Nat) (v : AView) (hv : st.core.views[i]? = some v)
    (hs : v.a.status = .finished ∨ v.a.status = .cancelled) :
    (step st (.block t)).2.core.views[i]? = some v := by
  by_cases hok : (step st (.block t)).1.res = .ok
  · obtain ⟨cb, hb, hr⟩ := step_block_ok hok
    obtain ⟨c1, c2, pre, seg, post, hstep, hv1, _, hfin, _, _, _⟩ := beginBlock_at hb i v hv
    rw [hr]
    show cb.s.views[i]? = some v
    rw [hfin, blockStep_terminal hstep hv1 hs]
    exact hv1
  · rw [(step_block_failed hok).1]
    exact hv

/-- the extension decision (C13); `v.matchedLen` is what the previous end time recorded -/
theorem block_extends_iff (st : State) (t : Int) (hok : (step st (.block t)).1.res = .ok)
    (i : Nat) (v v' : AView) (mi : MInfo) (hv : st.core.views[i]? = some v)
    (hv' : (step st (.block t)).2.core.views[i]? = some v')
    (hs : v.a.status = .started) (hty : v.a.type = .batch) (hdue : v.a.lastEnd ≤ t)
    (hmi : calcBatch v.a v.bids v.allowed = some mi) :
    (v'.a.status = .started ↔
      (v.a.maxExt + 1 ≠ v.a.endTimes.length ∧
        (v.matchedLen = 0 ∨ shouldExtend mi.matchedLen v.matchedLen v.a.rate = true))) ∧
    -- whatever the decision, the matched flags and MatchedBidsLen are rewritten from `mi`
    v'.bids = v.bids.map (fun b => { b with matched := mi.matchedIds.contains b.id }) ∧
    v'.matchedLen = mi.matchedLen ∧
    -- published matched price (C16): the clearing price that was used, zero if nothing sold
    (v'.a.status ≠ .started → v'.a.matchedPrice = (if mi.total > 0 then mi.price else 0)) := by
  obtain ⟨c, c', _, seg, _, hstep, hv1, rfl, hv2, he, _⟩ := block_at st _ hok i v v' hv hv'
  rcases blockStep_started hstep hv1 hv2 he hs with
    ⟨hlt, _⟩ | ⟨_, _, mi', hmi', hde, rfl⟩ | ⟨_, _, _, mi', _, _, hwhich, _, _, _, hS, _⟩
  · exact absurd hdue (by omega)
  · obtain rfl := Option.some.inj (hmi.symm.trans hmi')
    exact ⟨⟨fun _ => hde, fun _ => hs⟩, rfl, rfl, fun hne => absurd hs hne⟩
  · rcases hwhich with ⟨hf, _⟩ | ⟨_, hmi', hde, rfl, rfl⟩
    · rw [hty] at hf; cases hf
    · obtain rfl := Option.some.inj (hmi.symm.trans hmi')
      obtain ⟨hb, _, hm, _⟩ := hS.keeps
      have hst : v'.a.status ≠ .started := by
        rcases hS.status_or with h | h <;> rw [h] <;> simp
      exact ⟨⟨fun h => absurd h hst, fun h => absurd h hde⟩, hb, hm, fun _ => by rw [hS.status_only]; rfl⟩

/-! ### what a settlement transfers and leaves -/

theorem batch_settlement_transfers (st : State) (t : Int) (hok : (step st (.block t)).1.res = .ok)
    (i : Nat) (v v' : AView) (mi : MInfo) (hv : st.core.views[i]? = some v)
    (hv' : (step st (.block t)).2.core.views[i]? = some v')
    (hs : v.a.status = .started) (hty : v.a.type = .batch)
    (hids : ∀ (j : Nat) (w : AView), st.core.views[j]? = some w → w.a.id = j)
    (hmi : calcBatch v.a v.bids v.allowed = some mi) (hsettled : v'.a.status ≠ .started) :
    ∃ rest proceeds,
      (xfersOf (step st (.block t)).1.effs).filter (fun x => x.src = .sell i ∨ x.src = .pay i) =
        ((mi.alloc.filter (fun p => p.2 ≠ 0)).map
            (fun p => (⟨.io, .sell i, .user p.1, [⟨v.a.sellDenom, p.2⟩]⟩ : Transfer)))
        ++ [⟨.send, .sell i, .user v.a.auctioneer, rest⟩]
        ++ ((mi.refund.filter (fun p => p.2 ≠ 0)).map
            (fun p => (⟨.io, .pay i, .user p.1, [⟨v.a.payDenom, p.2⟩]⟩ : Transfer)))
        ++ [proceeds] ∧
      proceeds.src = .pay i ∧
      proceeds.dst = (if v.a.schedules.isEmpty then .user v.a.auctioneer else .vest i) := by
  obtain ⟨c, c', pre, seg, post, hstep, hv1, rfl, hv2, he, heffs, hfor⟩ := block_at st _ hok i v v' hv hv'
  rcases blockStep_started hstep hv1 hv2 he hs with
    ⟨_, rfl⟩ | ⟨_, _, _, _, _, rfl⟩ | ⟨_, _, _, mi', S, R, hwhich, _, _, _, _, hx⟩
  · exact absurd hs hsettled
  · exact absurd hs hsettled
  · rcases hwhich with ⟨hf, _⟩ | ⟨_, hmi', _, rfl, rfl⟩
    · rw [hty] at hf; cases hf
    · obtain rfl := Option.some.inj (hmi.symm.trans hmi')
      refine ⟨coinsOf v.a.sellDenom S, proceedsOf i v R, ?_, rfl, rfl⟩
      rw [heffs, filter_settle hids hv hfor hx]
      unfold settleXfers payXfers sweepOf
      rw [hids i v hv]

theorem fixed_settlement_transfers (st : State) (t : Int) (hok : (step st (.block t)).1.res = .ok)
    (i : Nat) (v v' : AView) (hv : st.core.views[i]? = some v)
    (hv' : (step st (.block t)).2.core.views[i]? = some v')
    (hs : v.a.status = .started) (hty : v.a.type = .fixed)
    (hids : ∀ (j : Nat) (w : AView), st.core.views[j]? = some w → w.a.id = j) (hdue : v.a.lastEnd ≤ t) :
    (v'.a.status = .vesting ∨ v'.a.status = .finished) ∧ v'.bids = v.bids ∧
    ∃ rest proceeds,
      (xfersOf (step st (.block t)).1.effs).filter (fun x => x.src = .sell i ∨ x.src = .pay i) =
        (((calcFixed v.a v.bids).alloc.filter (fun p => p.2 ≠ 0)).map
            (fun p => (⟨.io, .sell i, .user p.1, [⟨v.a.sellDenom, p.2⟩]⟩ : Transfer)))
        ++ [⟨.send, .sell i, .user v.a.auctioneer, rest⟩] ++ [proceeds] ∧
      proceeds.src = .pay i ∧
      proceeds.dst = (if v.a.schedules.isEmpty then .user v.a.auctioneer else .vest i) := by
  obtain ⟨c, c', pre, seg, post, hstep, hv1, rfl, hv2, he, heffs, hfor⟩ := block_at st _ hok i v v' hv hv'
  rcases blockStep_started hstep hv1 hv2 he hs with
    ⟨hlt, _⟩ | ⟨_, hb, _⟩ | ⟨_, _, _, _, S, R, hwhich, _, _, _, hS, hx⟩
  · exact absurd hdue (by omega)
  · rw [hty] at hb; cases hb
  · rcases hwhich with ⟨_, rfl, rfl, rfl⟩ | ⟨hb, _⟩
    · refine ⟨hS.status_or, hS.keeps.1, coinsOf v.a.sellDenom S, proceedsOf i v R, ?_, rfl, rfl⟩
      rw [heffs, filter_settle hids hv hfor hx]
      unfold settleXfers payXfers sweepOf
      rw [hids i v hv]
      simp [calcFixed]
    · rw [hty] at hb; cases hb

theorem settlement_vesting (st : State) (t : Int) (hok : (step st (.block t)).1.res = .ok)
    (i : Nat) (v v' : AView) (hv : st.core.views[i]? = some v)
    (hv' : (step st (.block t)).2.core.views[i]? = some v')
    (hs : v.a.status = .started) (hsettled : v'.a.status ≠ .started) (hvq : v.vqs = [])
    (hsched : (v.a.schedules.map (·.release)).Pairwise (· < ·)) :
    (v.a.schedules = [] → v'.a.status = .finished ∧ v'.vqs = []) ∧
    (v.a.schedules ≠ [] → v'.a.status = .vesting ∧
      ∃ R parts, 0 ≤ R ∧ splitLoop R v.a.schedules R = some parts ∧
        v'.vqs.map (fun q => (q.release, q.amt)) = parts ∧
        (∀ q ∈ v'.vqs, q.released = false ∧ q.denom = v.a.payDenom ∧ q.auctioneer = v.a.auctioneer) ∧
        ∃ x ∈ xfersOf (step st (.block t)).1.effs, x.src = .pay i ∧ x.dst = .vest i ∧
          x.coins = (if R = 0 then [] else [⟨v.a.payDenom, R⟩])) := by
  obtain ⟨c, c', pre, seg, post, hstep, hv1, rfl, hv2, he, heffs, _⟩ := block_at st _ hok i v v' hv hv'
  rcases blockStep_started hstep hv1 hv2 he hs with
    ⟨_, rfl⟩ | ⟨_, _, _, _, _, rfl⟩ | ⟨_, v₁, mp, mi, S, R, _, ha, hq, hR, hS, hx⟩
  · exact absurd hs hsettled
  · exact absurd hs hsettled
  · -- the record that is settled has the terms of `v` and its (empty) queue
    have hV := hS.vesting (hq.trans hvq) (by rw [AView.priced, ha]; exact hsched)
    simp only [AView.priced, ha] at hV
    refine ⟨hV.1, fun hne => ?_⟩
    obtain ⟨hst, parts, hsp, hmap, hall⟩ := hV.2 hne
    refine ⟨hst, R, parts, hR, hsp, hmap, hall, proceedsOf i v R, ?_, rfl, ?_, rfl⟩
    · rw [heffs, xfersOf_append, xfersOf_append, hx]
      simp [settleXfers]
    · rw [proceedsOf, List.isEmpty_eq_false_iff.mpr hne]; rfl

theorem block_releases (st : State) (t : Int) (hok : (step st (.block t)).1.res = .ok)
    (i : Nat) (v v' : AView) (hv : st.core.views[i]? = some v)
    (hv' : (step st (.block t)).2.core.views[i]? = some v') (hs : v.a.status = .vesting)
    (hsorted : (v.vqs.map (·.release)).Pairwise (· < ·)) :
    v'.vqs = v.vqs.map (fun q => if q.release ≤ t ∧ q.released = false then { q with released := true } else q) ∧
    (xfersOf (step st (.block t)).1.effs).filter (fun x => x.src = .vest i) =
      (v.vqs.filter (fun q => decide (q.release ≤ t) && !q.released)).map
        (fun q => (⟨.send, .vest i, .user v.a.auctioneer, if q.amt = 0 then [] else [⟨q.denom, q.amt⟩]⟩ : Transfer)) ∧
    (v'.a.status = .finished ↔ ∃ q, v.vqs.getLast? = some q ∧ q.release ≤ t ∧ q.released = false) ∧
    (v'.a.status = .finished ∨ v'.a.status = .vesting) := by
  obtain ⟨c, c', pre, seg, post, hstep, hv1, rfl, hv2, he, heffs, hfor⟩ := block_at st _ hok i v v' hv hv'
  obtain ⟨hq, hx, hfin, hor⟩ := blockStep_vesting hstep hv1 hv2 he hs hsorted
  refine ⟨hq, ?_, hfin, hor⟩
  rw [heffs]
  refine (filter_segment _ pre seg post (fun x hm => ?_) (fun x hm => ?_)).trans hx
  · obtain ⟨j, w, hj, _, ho⟩ := hfor x hm
    exact decide_eq_false (Own.foreign ho hj).1
  · rw [hx] at hm
    obtain ⟨q, _, rfl⟩ := List.mem_map.mp hm
    exact decide_eq_true rfl

/-! ### what the message handlers leave -/

theorem create_status (st : State) (m : CreateMsg) (hok : (step st (.msg (.create m))).1.res = .ok) :
    ∃ v, (step st (.msg (.create m))).2.core.views[st.core.views.length]? = some v ∧
      v.a.status = (if m.startTime ≤ st.core.now then .started else .standby) ∧
      v.bids = [] ∧ v.allowed = [] ∧ v.vqs = [] ∧ v.a.endTimes = [m.endTime] := by
  obtain ⟨c', -, hh, hr⟩ := step_msg_ok hok
  obtain ⟨-, -, -, -, -, -, b, -, rfl⟩ := createAuction_iff.mp hh
  refine ⟨m.view st.core.views.length st.core.now, ?_, rfl, rfl, rfl, rfl, rfl⟩
  rw [hr]
  show (st.core.views ++ [_])[st.core.views.length]? = _
  simp

theorem fixed_bid_flag (st : State) (bidder : Acc) (aid : Nat) (price : Dec) (denom : Denom) (amt : Int)
    (v v' : AView) (hv : st.core.views[aid]? = some v)
    (hok : (step st (.msg (.place bidder aid (some .fixed) price denom amt))).1.res = .ok)
    (hv' : (step st (.msg (.place bidder aid (some .fixed) price denom amt))).2.core.views[aid]? = some v') :
    ∃ b, v'.bids = v.bids ++ [b] ∧ b.type = .fixed ∧ b.price = price ∧ b.denom = denom ∧ b.amt = amt ∧
      b.bidder = bidder ∧ (b.matched = true ↔ 0 < b.toSelling v.a.payDenom) ∧
      v'.a.remaining = v.a.remaining - b.toSelling v.a.payDenom := by
  obtain ⟨c', -, hh, hr⟩ := step_msg_ok hok
  obtain ⟨v₀, ab, hv₀, -, -, -, -, -, -, b, -, rfl⟩ := placeBid_iff.mp
    (show placeBid { s := st.core, ctl := st.ctl } bidder aid .fixed price denom amt = .ok c' from hh)
  obtain rfl : v = v₀ := Option.some.inj (hv.symm.trans hv₀)
  rw [hr] at hv'
  obtain rfl := Option.some.inj ((getElem?_set_of_get hv).symm.trans hv')
  exact ⟨{ v.newBid aid bidder .fixed price denom amt with
      matched := decide ((v.newBid aid bidder .fixed price denom amt).toSelling v.a.payDenom > 0) },
    rfl, rfl, rfl, rfl, rfl, rfl, decide_eq_true_iff, rfl⟩

end Fundraising
