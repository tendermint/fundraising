import Fundraising.Spec.Invariants
import Fundraising.Proofs.Exec
import Fundraising.Proofs.VestingLemmas
/-
  What the handlers run by `BeginBlocker` do.  Each has an equivalence `X_iff`: its success
  against its guards and the steps it runs, or the explicit result context; `X_ok` reads off
  it what the invariant families use, the record written and the effects logged, as `Ran`
  (Proofs/Exec.lean) over an explicit list.  Both closing operations run `SettleSteps`, read as
  one `Settlement`; the release pass writes `AView.released` for a queue in release order.  The
  loop is taken apart by `blockStep_iff`, `blockLoop_induct` and, around one index,
  `blockLoop_at`.  `vqOf`, `Settled`, `due`, `rel`, `all_released` sit in `namespace ProgressInv`
  / `EscrowInv` because theorems of those families cite them under these names.
-/
namespace Fundraising

/-! ### the payout loop -/

def payXfers (src : Addr) (d : Denom) (l : List (Acc × Int)) : List Transfer :=
  (l.filter (fun p => p.2 ≠ 0)).map (fun p => (⟨.io, src, .user p.1, [⟨d, p.2⟩]⟩ : Transfer))

theorem payXfers_cons (src : Addr) (d : Denom) (u : Acc) (amt : Int) (l : List (Acc × Int)) :
    payXfers src d ((u, amt) :: l) =
      if amt = 0 then payXfers src d l else ⟨.io, src, .user u, coinsOf d amt⟩ :: payXfers src d l := by
  unfold payXfers coinsOf
  by_cases h0 : amt = 0 <;> simp [h0]

theorem payXfers_ends {src : Addr} {d : Denom} {l : List (Acc × Int)} :
    ∀ t ∈ payXfers src d l, t.src = src ∧ ∃ u, t.dst = .user u := by
  intro t ht
  obtain ⟨p, _, rfl⟩ := List.mem_map.mp ht
  exact ⟨rfl, p.1, rfl⟩

theorem payXfers_nonneg {src : Addr} {d : Denom} {l : List (Acc × Int)} (h : ∀ p ∈ l, 0 ≤ p.2) :
    ∀ t ∈ payXfers src d l, ∀ x ∈ t.coins, 0 ≤ x.amt := by
  intro t ht x hx
  obtain ⟨p, hp, rfl⟩ := List.mem_map.mp ht
  rw [List.mem_singleton.mp hx]
  exact h p (List.mem_filter.mp hp).1

theorem netFlow_payXfers {src a : Addr} (ha : ∀ u, a ≠ .user u) (d d' : Denom) :
    ∀ l : List (Acc × Int), netFlow (payXfers src d l) a d' =
      if a = src ∧ d' = d then -(l.map (·.2)).sum else 0
  | [] => by simp [payXfers, netFlow]
  | (u, amt) :: l => by
    have ih := netFlow_payXfers (src := src) ha d d' l
    rw [payXfers_cons]
    by_cases h0 : amt = 0
    · rw [if_pos h0, ih]; simp [h0]
    · rw [if_neg h0, netFlow_cons, ih, delta_coinsOf]
      simp only [ha u, false_and, if_false, List.map_cons, List.sum_cons]
      split <;> omega

theorem payOut_iff {src : Addr} {d : Denom} : ∀ {l : List (Acc × Int)} {c c' : Ctx},
    payOut c src d l = .ok c' ↔
      (∀ p ∈ l, 0 ≤ p.2) ∧ ∃ b, Pays c (payXfers src d l) b ∧ c' = c.paid (payXfers src d l) b
  | [], c, c' => by
    simp only [payOut, pure_ok, payXfers, List.filter_nil, List.map_nil, pays_nil, exists_eq_left,
      paid_nil, List.not_mem_nil, false_imp_iff, implies_true, true_and]
    exact eq_comm
  | (u, amt) :: l, c, c' => by
    rw [payXfers_cons]
    by_cases h0 : amt = 0
    · simp [payOut, h0, payOut_iff (l := l)]
    · rw [if_neg h0, ← List.singleton_append (l := payXfers src d l)]
      simp only [payOut, if_neg h0, mkCoins_bind_ok, bankCall_bind_ok, payOut_iff (l := l),
        List.mem_cons, forall_eq_or_imp, and_assoc, exists_and_guard, paid_paid, pays_then_pays]

theorem payOut_ok {src : Addr} {d : Denom} {l : List (Acc × Int)} {c c' : Ctx}
    (h : payOut c src d l = .ok c') :
    (∀ p ∈ l, 0 ≤ p.2) ∧ c'.s.views = c.s.views ∧ Ran c c' ((payXfers src d l).map .xfer) := by
  obtain ⟨h0, b, hp, rfl⟩ := payOut_iff.mp h
  exact ⟨h0, rfl, hp.paid⟩

def allocEffs (n : Nat) (a : Auction) (mi : MInfo) : List Eff :=
  hookEffs n "BeforeSellingCoinsAllocated" ([rNat a.id] ++ rAmtMap mi.alloc ++ rAmtMap mi.refund)
    ++ (payXfers (.sell a.id) a.sellDenom mi.alloc).map .xfer

theorem xfersOf_allocEffs (n : Nat) (a : Auction) (mi : MInfo) :
    xfersOf (allocEffs n a mi) = payXfers (.sell a.id) a.sellDenom mi.alloc := by
  unfold allocEffs
  rw [xfersOf_append, xfersOf_hookEffs, xfersOf_map_xfer, List.nil_append]

theorem allocateSellingCoin_iff {c c' : Ctx} {a : Auction} {mi : MInfo} :
    allocateSellingCoin c a mi = .ok c' ↔ c.Hears "BeforeSellingCoinsAllocated" ∧
      payOut (c.heard "BeforeSellingCoinsAllocated" ([rNat a.id] ++ rAmtMap mi.alloc ++ rAmtMap mi.refund))
        (.sell a.id) a.sellDenom mi.alloc = .ok c' :=
  hook_bind_ok

theorem allocateSellingCoin_ok {c c' : Ctx} {a : Auction} {mi : MInfo}
    (h : allocateSellingCoin c a mi = .ok c') :
    (∀ p ∈ mi.alloc, 0 ≤ p.2) ∧ c'.s.views = c.s.views ∧ Ran c c' (allocEffs c.ctl.listeners a mi) := by
  obtain ⟨hp, hv, r⟩ := payOut_ok (allocateSellingCoin_iff.mp h).2
  exact ⟨hp, hv, (Ran.heard c _ _).trans r⟩

def sweepOf (a : Auction) (S : Int) : Transfer :=
  ⟨.send, .sell a.id, .user a.auctioneer, coinsOf a.sellDenom S⟩

theorem refundRemainingSellingCoin_iff {c c' : Ctx} {a : Auction} :
    refundRemainingSellingCoin c a = .ok c' ↔ 0 ≤ c.s.bank (.sell a.id) a.sellDenom ∧
      ∃ b, Pays c [sweepOf a (c.s.bank (.sell a.id) a.sellDenom)] b ∧
        c' = c.paid [sweepOf a (c.s.bank (.sell a.id) a.sellDenom)] b := by
  simp only [refundRemainingSellingCoin, mkCoins_bind_ok, bankCall_iff]
  rfl

theorem refundRemainingSellingCoin_ok {c c' : Ctx} {a : Auction}
    (h : refundRemainingSellingCoin c a = .ok c') :
    0 ≤ c.s.bank (.sell a.id) a.sellDenom ∧ c'.s.views = c.s.views ∧
    Ran c c' [.xfer (sweepOf a (c.s.bank (.sell a.id) a.sellDenom))] := by
  obtain ⟨h0, b, hp, rfl⟩ := refundRemainingSellingCoin_iff.mp h
  exact ⟨h0, rfl, hp.paid⟩

/-! ### ApplyVestingSchedules -/

namespace ProgressInv

def vqOf (aid : Nat) (a : Auction) (p : Int × Int) : VQ :=
  { auction := aid, release := p.1, auctioneer := a.auctioneer, denom := a.payDenom, amt := p.2,
    released := false }

/-- what `ApplyVestingSchedules` writes for view `v` with proceeds `R` -/
def Settled (aid : Nat) (v : AView) (R : Int) (w : AView) : Prop :=
  (v.a.schedules = [] → w = { v with a := { v.a with status := .finished } }) ∧
  (v.a.schedules ≠ [] → ∃ parts, splitLoop R v.a.schedules R = some parts ∧
     w = { v with a := { v.a with status := .vesting },
                  vqs := parts.foldl (fun l p => setVQ l (vqOf aid v.a p)) v.vqs })

end ProgressInv
open ProgressInv (vqOf Settled)

def proceedsOf (aid : Nat) (v : AView) (R : Int) : Transfer :=
  ⟨.send, .pay aid, if v.a.schedules.isEmpty then .user v.a.auctioneer else .vest aid,
   coinsOf v.a.payDenom R⟩

theorem applyVestingSchedules_iff {c c' : Ctx} {aid : Nat} {v : AView} (hv : c.s.views[aid]? = some v) :
    applyVestingSchedules c aid = .ok c' ↔ 0 ≤ c.s.bank (.pay aid) v.a.payDenom ∧
      ∃ b, Pays c [proceedsOf aid v (c.s.bank (.pay aid) v.a.payDenom)] b ∧
        ∃ w, Settled aid v (c.s.bank (.pay aid) v.a.payDenom) w ∧
          c' = (c.paid [proceedsOf aid v (c.s.bank (.pay aid) v.a.payDenom)] b).setView aid w := by
  simp only [applyVestingSchedules, Ctx.bal, view_bind_ok, hv, Option.some.injEq, exists_eq_left',
    mkCoins_bind_ok]
  refine and_congr_right fun _ => ?_
  unfold proceedsOf Settled
  by_cases hemp : v.a.schedules.isEmpty = true
  · have he : v.a.schedules = [] := List.isEmpty_iff.mp hemp
    simp only [if_pos hemp, bankCall_bind_ok, pure_ok]
    simp only [he, true_imp_iff, ne_eq, not_true_eq_false, false_imp_iff, and_true, exists_eq_left,
      @eq_comm _ c']
  · have he : v.a.schedules ≠ [] := fun e => hemp (List.isEmpty_iff.mpr e)
    simp only [if_neg hemp, bankCall_bind_ok, he, false_imp_iff, true_and, ne_eq, not_false_eq_true,
      true_imp_iff]
    refine exists_congr fun b => and_congr_right fun _ => ?_
    cases splitLoop (c.s.bank (.pay aid) v.a.payDenom) v.a.schedules (c.s.bank (.pay aid) v.a.payDenom) with
    | none => simp [fail_ok]
    | some parts => simp only [pure_ok, Option.some.injEq, exists_eq_left', exists_eq_left, vqOf, @eq_comm _ c']

theorem applyVestingSchedules_ok {c c' : Ctx} {aid : Nat} {v : AView}
    (h : applyVestingSchedules c aid = .ok c') (hv : c.s.views[aid]? = some v) :
    ∃ w, 0 ≤ c.s.bank (.pay aid) v.a.payDenom ∧
      Settled aid v (c.s.bank (.pay aid) v.a.payDenom) w ∧ c'.s.views = c.s.views.set aid w ∧
      Ran c c' [.xfer (proceedsOf aid v (c.s.bank (.pay aid) v.a.payDenom))] := by
  obtain ⟨hR, b, hp, w, hw, rfl⟩ := (applyVestingSchedules_iff hv).mp h
  exact ⟨w, hR, hw, rfl, hp.paid.setView aid w⟩

theorem unreleased_vqOf (aid : Nat) (a : Auction) : ∀ parts : List (Int × Int),
    (((parts.map (vqOf aid a)).filter (fun q => !q.released)).map (·.amt)).sum = (parts.map (·.2)).sum
  | [] => rfl
  | p :: ps => by simpa [vqOf] using unreleased_vqOf aid a ps

namespace ProgressInv.Settled
variable {aid : Nat} {v w : AView} {R : Int}

theorem cases (h : Settled aid v R w) (hq : v.vqs = [])
    (hs : (v.a.schedules.map (·.release)).Pairwise (· < ·)) :
    (v.a.schedules = [] ∧ w = { v with a := { v.a with status := .finished } }) ∨
    (v.a.schedules ≠ [] ∧ ∃ parts, splitLoop R v.a.schedules R = some parts ∧
      w = { v with a := { v.a with status := .vesting }, vqs := parts.map (vqOf aid v.a) }) := by
  by_cases e : v.a.schedules = []
  · exact Or.inl ⟨e, h.1 e⟩
  · obtain ⟨parts, hsp, rfl⟩ := h.2 e
    refine Or.inr ⟨e, parts, hsp, ?_⟩
    rw [foldl_setVQ (vqOf aid v.a) (fun _ => rfl) parts v.vqs
      (by rw [splitLoop_release R _ _ _ hsp]; exact hs) (by rw [hq]; intro y hy; cases hy), hq]
    rfl

theorem status_only (h : Settled aid v R w) : w.a = { v.a with status := w.a.status } := by
  by_cases e : v.a.schedules = []
  · rw [h.1 e]
  · obtain ⟨_, _, rfl⟩ := h.2 e; rfl

theorem status_or (h : Settled aid v R w) : w.a.status = .vesting ∨ w.a.status = .finished := by
  by_cases e : v.a.schedules = []
  · rw [h.1 e]; exact Or.inr rfl
  · obtain ⟨_, _, rfl⟩ := h.2 e; exact Or.inl rfl

theorem keeps (h : Settled aid v R w) :
    w.bids = v.bids ∧ w.allowed = v.allowed ∧ w.matchedLen = v.matchedLen ∧ w.bidSeq = v.bidSeq := by
  by_cases e : v.a.schedules = []
  · rw [h.1 e]; exact ⟨rfl, rfl, rfl, rfl⟩
  · obtain ⟨_, _, rfl⟩ := h.2 e; exact ⟨rfl, rfl, rfl, rfl⟩

theorem owedVest (h : Settled aid v R w) (hq : v.vqs = []) (hR : 0 ≤ R) {e : Int}
    (hs : validSchedules v.a.schedules e = true) :
    owedVest w = if v.a.schedules = [] then 0 else R := by
  by_cases hne : v.a.schedules = []
  · rw [if_pos hne, h.1 hne]; rfl
  · obtain ⟨hvw, _, hsorted⟩ := validSchedules_spec _ _ hne hs
    obtain ⟨parts', hsp', _, hsum, _, _⟩ := splitLoop_spec R _ hR hvw
    rcases h.cases hq hsorted with ⟨e0, _⟩ | ⟨_, parts, hsp, rfl⟩
    · exact absurd e0 hne
    · rw [hsp] at hsp'
      cases hsp'
      rw [if_neg hne, ← hsum]
      simp only [Fundraising.owedVest, unreleasedTotal, if_true]
      exact unreleased_vqOf aid v.a _

end ProgressInv.Settled

/-! ### settlement: `CloseFixedPriceAuction` and the settling branch of `CloseBatchAuction` -/

def AView.priced (v : AView) (mp : Dec) : AView := { v with a := { v.a with matchedPrice := mp } }

/-- the transfers of a settlement (no refunds for fixed-price auctions).  As in the code, the
    payouts and the sweep are handed the auction and address its escrows by the stored id
    `v.a.id`; `ApplyVestingSchedules` is handed the index `aid` and addresses by that.  The two
    agree on a well-formed record (`ViewWF.id`). -/
def settleXfers (aid : Nat) (v : AView) (mi : MInfo) (S R : Int) : List Transfer :=
  payXfers (.sell v.a.id) v.a.sellDenom mi.alloc ++ [sweepOf v.a S]
    ++ payXfers (.pay v.a.id) v.a.payDenom mi.refund ++ [proceedsOf aid v R]

def settleEffs (n aid : Nat) (v : AView) (mi : MInfo) (S R : Int) : List Eff :=
  hookEffs n "BeforeSellingCoinsAllocated" ([rNat v.a.id] ++ rAmtMap mi.alloc ++ rAmtMap mi.refund)
    ++ (settleXfers aid v mi S R).map .xfer

theorem xfersOf_settleEffs (n aid : Nat) (v : AView) (mi : MInfo) (S R : Int) :
    xfersOf (settleEffs n aid v mi S R) = settleXfers aid v mi S R := by
  unfold settleEffs
  rw [xfersOf_append, xfersOf_hookEffs, xfersOf_map_xfer, List.nil_append]

theorem settleXfers_ends {aid : Nat} {v : AView} {mi : MInfo} {S R : Int} :
    ∀ t ∈ settleXfers aid v mi S R,
      ((t.src = .sell v.a.id ∨ t.src = .pay v.a.id ∨ t.src = .pay aid) ∧ ∃ u, t.dst = .user u) ∨
      (t.src = .pay aid ∧ t.dst = .vest aid) := by
  intro t ht
  unfold settleXfers at ht
  simp only [List.mem_append, List.mem_singleton] at ht
  rcases ht with ((ht | rfl) | ht) | rfl
  · obtain ⟨h1, h2⟩ := payXfers_ends t ht
    exact Or.inl ⟨Or.inl h1, h2⟩
  · exact Or.inl ⟨Or.inl rfl, _, rfl⟩
  · obtain ⟨h1, h2⟩ := payXfers_ends t ht
    exact Or.inl ⟨Or.inr (Or.inl h1), h2⟩
  · unfold proceedsOf
    split
    · exact Or.inl ⟨Or.inr (Or.inr rfl), _, rfl⟩
    · exact Or.inr ⟨rfl, rfl⟩

theorem netFlow_settleXfers {aid : Nat} {v : AView} {mi : MInfo} {S R : Int}
    {a : Addr} (ha : ∀ u, a ≠ .user u) (d : Denom) :
    netFlow (settleXfers aid v mi S R) a d =
      (if a = .sell v.a.id ∧ d = v.a.sellDenom then -(mi.alloc.map (·.2)).sum else 0)
      + (if a = .sell v.a.id ∧ d = v.a.sellDenom then -S else 0)
      + (if a = .pay v.a.id ∧ d = v.a.payDenom then -(mi.refund.map (·.2)).sum else 0)
      + (if d = v.a.payDenom then
          (if a = .vest aid ∧ v.a.schedules ≠ [] then R else 0) - (if a = .pay aid then R else 0)
         else 0) := by
  have hp : (proceedsOf aid v R).delta a d = if d = v.a.payDenom then
      (if a = .vest aid ∧ v.a.schedules ≠ [] then R else 0) - (if a = .pay aid then R else 0) else 0 := by
    by_cases he : v.a.schedules = [] <;> by_cases hd : d = v.a.payDenom <;>
      simp [proceedsOf, delta_coinsOf, he, hd, ha]
  have hs : (sweepOf v.a S).delta a d = if a = .sell v.a.id ∧ d = v.a.sellDenom then -S else 0 := by
    by_cases h1 : a = .sell v.a.id <;> by_cases h2 : d = v.a.sellDenom <;>
      simp [sweepOf, delta_coinsOf, h1, h2, ha]
  unfold settleXfers
  rw [netFlow_append, netFlow_append, netFlow_append, netFlow_cons, netFlow_cons, netFlow_nil,
    netFlow_payXfers ha, netFlow_payXfers ha, hp, hs, Int.add_zero, Int.add_zero]

/-- A settlement of auction `aid` with record `v`: the selling escrow pays `mi.alloc` and its
    rest `S` goes to the auctioneer; the paying escrow pays `mi.refund` and its rest `R`, the
    proceeds, goes to the auctioneer or into the vesting escrow; the record, with the
    matched price `mp`, is written back by `ApplyVestingSchedules` as `w`.  `sweep` is about
    the escrow the sweep empties, `.sell v.a.id`; `proceeds` relates the balance of `.pay aid` to
    refunds paid out of `.pay v.a.id`, so it is claimed only where these are one escrow. -/
structure Settlement (c c' : Ctx) (aid : Nat) (v : AView) (mp : Dec) (mi : MInfo) (S R : Int)
    (w : AView) : Prop where
  sweep : S = c.s.bank (.sell v.a.id) v.a.sellDenom - (mi.alloc.map (·.2)).sum
  proceeds : v.a.id = aid → R = c.s.bank (.pay aid) v.a.payDenom - (mi.refund.map (·.2)).sum
  sweepNonneg : 0 ≤ S
  proceedsNonneg : 0 ≤ R
  allocNonneg : ∀ p ∈ mi.alloc, 0 ≤ p.2
  refundNonneg : ∀ p ∈ mi.refund, 0 ≤ p.2
  view : Settled aid (v.priced mp) R w
  views : c'.s.views = c.s.views.set aid w
  ran : Ran c c' (settleEffs c.ctl.listeners aid v mi S R)

namespace Settlement
variable {c c' : Ctx} {aid : Nat} {v w : AView} {mp : Dec} {mi : MInfo} {S R : Int}

theorem bank (h : Settlement c c' aid v mp mi S R w) (a : Addr) (d : Denom) :
    c'.s.bank a d = c.s.bank a d + netFlow (settleXfers aid v mi S R) a d := by
  rw [h.ran.apply, xfersOf_settleEffs]

theorem nonneg (h : Settlement c c' aid v mp mi S R w) : BankNonneg c.s → BankNonneg c'.s := by
  apply h.ran.nonneg
  rw [xfersOf_settleEffs]
  intro t ht
  unfold settleXfers at ht
  simp only [List.mem_append, List.mem_singleton] at ht
  rcases ht with ((ht | rfl) | ht) | rfl
  · exact payXfers_nonneg h.allocNonneg t ht
  · exact coinsOf_nonneg h.sweepNonneg
  · exact payXfers_nonneg h.refundNonneg t ht
  · exact coinsOf_nonneg h.proceedsNonneg

theorem get {v₀ : AView} (h : Settlement c c' aid v mp mi S R w) (hv : c.s.views[aid]? = some v₀) :
    c'.s.views[aid]? = some w := by
  rw [h.views]; exact getElem?_set_of_get hv

theorem bank_sell (h : Settlement c c' aid v mp mi S R w) (hid : v.a.id = aid) (d : Denom) :
    c'.s.bank (.sell aid) d = if d = v.a.sellDenom then 0 else c.s.bank (.sell aid) d := by
  have hS := h.sweep
  rw [hid] at hS
  rw [h.bank, netFlow_settleXfers (fun u => by simp), hid]
  by_cases hd : d = v.a.sellDenom
  · subst hd; simp; omega
  · simp [hd]

theorem bank_pay (h : Settlement c c' aid v mp mi S R w) (hid : v.a.id = aid) (d : Denom) :
    c'.s.bank (.pay aid) d = if d = v.a.payDenom then 0 else c.s.bank (.pay aid) d := by
  have hR := h.proceeds hid
  rw [h.bank, netFlow_settleXfers (fun u => by simp), hid]
  by_cases hd : d = v.a.payDenom
  · subst hd; simp; omega
  · simp [hd]

theorem bank_vest (h : Settlement c c' aid v mp mi S R w) (d : Denom) :
    c'.s.bank (.vest aid) d =
      c.s.bank (.vest aid) d + if d = v.a.payDenom ∧ v.a.schedules ≠ [] then R else 0 := by
  rw [h.bank, netFlow_settleXfers (fun u => by simp)]
  by_cases h1 : d = v.a.payDenom <;> by_cases h2 : v.a.schedules = [] <;> simp [h1, h2]

theorem after_setView {v₁ : AView} (h : Settlement (c.setView aid v₁) c' aid v mp mi S R w) :
    Settlement c c' aid v mp mi S R w :=
  ⟨h.sweep, h.proceeds, h.sweepNonneg, h.proceedsNonneg, h.allocNonneg, h.refundNonneg, h.view,
    by rw [h.views, setView_views, List.set_set], h.ran.of_setView⟩

end Settlement

/-- the four steps both closing operations run on the record `v`; for a fixed-price auction
    the third pays nothing and the store write before the fourth changes nothing -/
def SettleSteps (c c' : Ctx) (aid : Nat) (v : AView) (mp : Dec) (mi : MInfo) : Prop :=
  ∃ c₁, allocateSellingCoin c v.a mi = .ok c₁ ∧ ∃ c₂, refundRemainingSellingCoin c₁ v.a = .ok c₂ ∧
    ∃ c₃, payOut c₂ (.pay v.a.id) v.a.payDenom mi.refund = .ok c₃ ∧
      applyVestingSchedules (c₃.setView aid (v.priced mp)) aid = .ok c'

theorem settle_ok {c c' : Ctx} {aid : Nat} {v : AView} {mi : MInfo} {mp : Dec}
    (hv : c.s.views[aid]? = some v) (h : SettleSteps c c' aid v mp mi) :
    ∃ S R w, Settlement c c' aid v mp mi S R w := by
  obtain ⟨c₁, h1, c₂, h2, c₃, h3, h4⟩ := h
  obtain ⟨ha, hv₁, r₁⟩ := allocateSellingCoin_ok h1
  obtain ⟨hS, hv₂, r₂⟩ := refundRemainingSellingCoin_ok h2
  obtain ⟨hr, hv₃, r₃⟩ := payOut_ok h3
  have hvs : c₃.s.views = c.s.views := by rw [hv₃, hv₂, hv₁]
  have r := ((r₁.trans r₂).trans r₃).setView aid (v.priced mp)
  have hv₄ : (c₃.setView aid (v.priced mp)).s.views[aid]? = some (v.priced mp) := by
    rw [setView_views, hvs]; exact getElem?_set_of_get hv
  obtain ⟨w, hR, hw, hv', r₄⟩ := applyVestingSchedules_ok h4 hv₄
  refine ⟨_, _, w, ?_, ?_, hS, hR, ha, hr, hw, by rw [hv', setView_views, List.set_set, hvs], ?_⟩
  -- `S` and `R` are the balances the sweep and `ApplyVestingSchedules` find: the balance at the start
  -- plus the net flow of the steps before (`Ran.apply`)
  · rw [r₁.apply, xfersOf_allocEffs, netFlow_payXfers (fun u => by simp)]
    simp; omega
  · intro hid
    show (c₃.setView aid (v.priced mp)).s.bank (.pay aid) v.a.payDenom = _
    rw [r.apply, xfersOf_append, xfersOf_append, xfersOf_allocEffs, xfersOf_map_xfer,
      netFlow_append, netFlow_append, netFlow_payXfers (fun u => by simp), netFlow_payXfers (fun u => by simp), hid]
    simp [xfersOf, netFlow, Transfer.delta, sweepOf]; omega
  · have r₄ : Ran _ c' [.xfer (proceedsOf aid v _)] := r₄
    have := r.trans r₄
    unfold settleEffs settleXfers
    unfold allocEffs at this
    simpa [List.map_append, List.append_assoc] using this

/-- the first three steps leave the records alone -/
theorem settleSteps_views {c c₁ c₂ c₃ : Ctx} {a : Auction} {mi : MInfo}
    (h1 : allocateSellingCoin c a mi = .ok c₁) (h2 : refundRemainingSellingCoin c₁ a = .ok c₂)
    (h3 : payOut c₂ (.pay a.id) a.payDenom mi.refund = .ok c₃) : c₃.s.views = c.s.views := by
  rw [(payOut_ok h3).2.1, (refundRemainingSellingCoin_ok h2).2.1, (allocateSellingCoin_ok h1).2.1]

theorem closeFixed_iff {c c' : Ctx} {aid : Nat} {v : AView} (hv : c.s.views[aid]? = some v) :
    closeFixed c aid = .ok c' ↔ SettleSteps c c' aid v v.a.matchedPrice (calcFixed v.a v.bids) := by
  simp only [closeFixed, view_bind_ok, hv, Option.some.injEq, exists_eq_left']
  simp only [bind_ok, SettleSteps]
  refine exists_congr fun c₁ => and_congr_right fun h1 => exists_congr fun c₂ => and_congr_right fun h2 => ?_
  show _ ↔ ∃ c₃, (pure c₂ : M Ctx) = Except.ok c₃ ∧ _
  -- `v.priced v.a.matchedPrice` is `v`, which `c₂` still holds
  simp only [pure_ok, exists_eq_left', setView_self ((settleSteps_views h1 h2 rfl).symm ▸ hv :
    c₂.s.views[aid]? = some (v.priced v.a.matchedPrice))]

theorem closeFixed_ok {c c' : Ctx} {aid : Nat} {v : AView}
    (h : closeFixed c aid = .ok c') (hv : c.s.views[aid]? = some v) :
    ∃ S R w, Settlement c c' aid v v.a.matchedPrice (calcFixed v.a v.bids) S R w :=
  settle_ok hv ((closeFixed_iff hv).mp h)

theorem settleBatch_iff {c c' : Ctx} {aid : Nat} {v : AView} {mi : MInfo} (hv : c.s.views[aid]? = some v) :
    settleBatch c aid mi = .ok c' ↔ SettleSteps c c' aid v (if mi.total > 0 then mi.price else 0) mi := by
  simp only [settleBatch, view_bind_ok, hv, Option.some.injEq, exists_eq_left']
  simp only [bind_ok, refundPayingCoin, SettleSteps]
  refine exists_congr fun c₁ => and_congr_right fun h1 => exists_congr fun c₂ => and_congr_right fun h2 =>
    exists_congr fun c₃ => and_congr_right fun h3 => ?_
  simp only [view_iff, settleSteps_views h1 h2 h3, hv, Option.some.injEq, exists_eq_left']
  rfl

/-! ### CloseBatchAuction -/

/-- the store writes of `CalculateBatchAllocation` -/
def markBids (v : AView) (mi : MInfo) : AView :=
  { v with bids := v.bids.map (fun b => { b with matched := mi.matchedIds.contains b.id }),
           matchedLen := mi.matchedLen }

def AView.extended (v : AView) (period : Nat) : AView :=
  { v with a := { v.a with endTimes := v.a.endTimes ++ [v.a.lastEnd + 86400 * (period : Int)] } }

def extDecision (v : AView) (mi : MInfo) : Prop :=
  v.a.maxExt + 1 ≠ v.a.endTimes.length ∧
    (v.matchedLen = 0 ∨ shouldExtend mi.matchedLen v.matchedLen v.a.rate = true)

instance (v : AView) (mi : MInfo) : Decidable (extDecision v mi) :=
  inferInstanceAs (Decidable (_ ∧ _))

/-- the three tests of `CloseBatchAuction` are this one decision -/
theorem extDecision_ite {α : Type} (v : AView) (mi : MInfo) (x y : α) :
    (if v.a.maxExt + 1 = v.a.endTimes.length then y else if v.matchedLen = 0 then x
      else if shouldExtend mi.matchedLen v.matchedLen v.a.rate then x else y) =
      if extDecision v mi then x else y := by
  unfold extDecision
  by_cases h1 : v.a.maxExt + 1 = v.a.endTimes.length <;> by_cases h2 : v.matchedLen = 0 <;>
    by_cases h3 : shouldExtend mi.matchedLen v.matchedLen v.a.rate = true <;> simp [h1, h2, h3]

theorem extendRound_iff {c c' : Ctx} {aid : Nat} {v : AView} (hv : c.s.views[aid]? = some v) :
    extendRound c aid = .ok c' ↔ c' = c.setView aid (v.extended c.s.params.period) := by
  simp only [extendRound, view_bind_ok, hv, Option.some.injEq, exists_eq_left', pure_ok]
  exact eq_comm

theorem closeBatch_iff {c c' : Ctx} {aid : Nat} {v : AView} (hv : c.s.views[aid]? = some v) :
    closeBatch c aid = .ok c' ↔ ∃ mi, calcBatch v.a v.bids v.allowed = some mi ∧
      if extDecision v mi then c' = c.setView aid ((markBids v mi).extended c.s.params.period)
      else SettleSteps (c.setView aid (markBids v mi)) c' aid (markBids v mi)
        (if mi.total > 0 then mi.price else 0) mi := by
  simp only [closeBatch, view_bind_ok, hv, Option.some.injEq, exists_eq_left']
  cases calcBatch v.a v.bids v.allowed with
  | none => simp only [bind_ok, fail_ok, false_and, exists_false, reduceCtorEq]
  | some mi =>
    have hv₀ : (c.setView aid (markBids v mi)).s.views[aid]? = some (markBids v mi) :=
      getElem?_set_of_get hv
    simp only [bind_ok, pure_ok, exists_eq_left', Option.some.injEq, extDecision_ite]
    split
    · exact (extendRound_iff hv₀).trans (by rw [setView_setView]; rfl)
    · exact settleBatch_iff hv₀

theorem closeBatch_ok {c c' : Ctx} {aid : Nat} {v : AView}
    (h : closeBatch c aid = .ok c') (hv : c.s.views[aid]? = some v) :
    ∃ mi, calcBatch v.a v.bids v.allowed = some mi ∧
      (extDecision v mi → c' = c.setView aid ((markBids v mi).extended c.s.params.period)) ∧
      (¬ extDecision v mi → ∃ S R w, Settlement c c' aid (markBids v mi)
          (if mi.total > 0 then mi.price else 0) mi S R w) := by
  obtain ⟨mi, hmi, h⟩ := (closeBatch_iff hv).mp h
  refine ⟨mi, hmi, fun d => by rwa [if_pos d] at h, fun d => ?_⟩
  rw [if_neg d] at h
  obtain ⟨S, R, w, st⟩ := settle_ok (getElem?_set_of_get hv) h
  exact ⟨S, R, w, st.after_setView⟩

/-! ### ReleaseVestingPayingCoin -/

namespace EscrowInv

def due (now : Int) (q : VQ) : Bool := decide (q.release ≤ now) && !q.released

/-- one pass of the release loop over an instalment -/
def rel (now : Int) (q : VQ) : VQ := if due now q then { q with released := true } else q

theorem due_iff {now : Int} {q : VQ} : due now q = true ↔ (q.release ≤ now ∧ (!q.released) = true) := by
  simp [due]

theorem rel_due {now : Int} {q : VQ} (h : due now q = true) : rel now q = { q with released := true } :=
  if_pos h

theorem rel_not_due {now : Int} {q : VQ} (h : ¬ due now q = true) : rel now q = q :=
  if_neg h

theorem rel_release (now : Int) (q : VQ) : (rel now q).release = q.release := by
  unfold rel; split <;> rfl

theorem rel_released_iff {now : Int} {q : VQ} :
    (rel now q).released = true ↔ q.released = true ∨ q.release ≤ now := by
  unfold rel due
  cases h : q.released <;> by_cases hd : q.release ≤ now <;> simp [h, hd]

theorem all_released {now : Int} {l : List VQ} {q : VQ}
    (hpw : (l.map (·.release)).Pairwise (· < ·)) (hl : l.getLast? = some q) (hd : due now q = true) :
    ∀ y ∈ l.map (rel now), y.released = true := by
  obtain ⟨l', rfl⟩ := List.getLast?_eq_some_iff.mp hl
  rw [List.map_append, List.pairwise_append] at hpw
  intro y hy
  obtain ⟨y0, hy0, rfl⟩ := List.mem_map.mp hy
  have hle : y0.release ≤ q.release := by
    rcases List.mem_append.mp hy0 with h | h
    · exact Int.le_of_lt (hpw.2.2 y0.release (List.mem_map.mpr ⟨y0, h, rfl⟩) q.release (by simp))
    · simp at h; subst h; exact Int.le_refl _
  have hq := (due_iff.mp hd).1
  exact rel_released_iff.mpr (Or.inr (by omega))

end EscrowInv
open EscrowInv (due rel due_iff)

def relXfer (aid : Nat) (auc : Acc) (q : VQ) : Transfer :=
  ⟨.send, .vest aid, .user auc, coinsOf q.denom q.amt⟩

def relXfers (aid : Nat) (auc : Acc) (now : Int) (l : List VQ) : List Transfer :=
  (l.filter (due now)).map (relXfer aid auc)

theorem relXfers_ends {aid : Nat} {auc : Acc} {now : Int} {l : List VQ} :
    ∀ t ∈ relXfers aid auc now l, t.src = .vest aid ∧ t.dst = .user auc := by
  intro t ht
  obtain ⟨q, _, rfl⟩ := List.mem_map.mp ht
  exact ⟨rfl, rfl⟩

theorem relXfers_nonneg {aid : Nat} {auc : Acc} {now : Int} {l : List VQ}
    (h : ∀ q ∈ l, due now q = true → 0 ≤ q.amt) :
    ∀ t ∈ relXfers aid auc now l, ∀ x ∈ t.coins, 0 ≤ x.amt := by
  intro t ht
  obtain ⟨q, hq, rfl⟩ := List.mem_map.mp ht
  obtain ⟨hq1, hq2⟩ := List.mem_filter.mp hq
  exact coinsOf_nonneg (h q hq1 hq2)

theorem netFlow_relXfers {aid : Nat} {auc : Acc} {now : Int} (pd d : Denom) :
    ∀ l : List VQ, (∀ q ∈ l, q.denom = pd) → netFlow (relXfers aid auc now l) (.vest aid) d =
      if d = pd then -((l.filter (due now)).map (·.amt)).sum else 0
  | [], _ => by simp [relXfers, netFlow]
  | q :: l, h => by
    have ih := netFlow_relXfers (aid := aid) (auc := auc) (now := now) pd d l
      (fun x hx => h x (List.mem_cons_of_mem _ hx))
    unfold relXfers at ih ⊢
    by_cases hd : due now q = true
    · rw [List.filter_cons_of_pos hd, List.map_cons, netFlow_cons, ih, relXfer, delta_coinsOf,
        h q (List.mem_cons_self ..)]
      simp only [reduceCtorEq, false_and, if_false, true_and, List.map_cons, List.sum_cons]
      split <;> omega
    · rw [List.filter_cons_of_neg hd, ih]

/-- the record after a release pass at time `t` -/
def AView.released (v : AView) (t : Int) : AView :=
  { v with a := { v.a with status := if v.vqs.getLast?.any (due t) then .finished else v.a.status },
           vqs := v.vqs.map (rel t) }

/-- the records `vs'` are the records `vs` except, at most, the one at index `aid` -/
def OnlyView (aid : Nat) (vs vs' : List AView) : Prop :=
  vs'.length = vs.length ∧ ∀ j, j ≠ aid → vs'[j]? = vs[j]?

theorem OnlyView.refl (aid : Nat) (vs : List AView) : OnlyView aid vs vs := ⟨rfl, fun _ _ => rfl⟩

theorem OnlyView.set {aid : Nat} {vs vs' : List AView} (h : OnlyView aid vs vs') (w : AView) :
    OnlyView aid vs (vs'.set aid w) :=
  ⟨by rw [List.length_set, h.1], fun j hj => by rw [List.getElem?_set_ne (Ne.symm hj), h.2 j hj]⟩

/-- the record after the loop has paid the due instalment `q` at position `i` -/
def paidView (n i : Nat) (q : VQ) (v : AView) : AView :=
  let v₁ : AView := { v with vqs := setVQ v.vqs { q with released := true } }
  if i + 1 = n then { v₁ with a := { v₁.a with status := .finished } } else v₁

theorem releaseLoop_due {aid : Nat} {auc : Acc} {n i : Nat} {q : VQ} {l : List VQ} {c c' : Ctx}
    {v : AView} (hv : c.s.views[aid]? = some v) (hd : due c.s.now q = true) :
    releaseLoop c aid auc n i (q :: l) = .ok c' ↔
      0 ≤ q.amt ∧ ∃ b, Pays c [relXfer aid auc q] b ∧
        releaseLoop ((c.paid [relXfer aid auc q] b).setView aid (paidView n i q v)) aid auc n (i + 1) l =
          .ok c' := by
  have hv₁ : ∀ xs b w, ((c.paid xs b).setView aid w).s.views[aid]? = some w :=
    fun _ _ _ => getElem?_set_of_get hv
  simp only [releaseLoop, if_pos (due_iff.mp hd), mkCoins_bind_ok, bankCall_bind_ok, view_bind_ok]
  refine and_congr_right fun _ => exists_congr fun b => and_congr_right fun _ => ?_
  show (∃ v', c.s.views[aid]? = some v' ∧ _) ↔ _
  simp only [hv, Option.some.injEq, exists_eq_left', paidView]
  by_cases hn : i + 1 = n
  · simp only [if_pos hn, view_bind_ok, hv₁, Option.some.injEq, exists_eq_left', pure_bind,
      setView_setView]
    rfl
  · simp only [if_neg hn, pure_bind]
    rfl

/-- the record of the auction after the release loop has run over `l` from position `i`;
    `n` is the length of the whole queue -/
def passView (n : Nat) (now : Int) : Nat → List VQ → AView → AView
  | _, [], v => v
  | i, q :: l, v => passView n now (i + 1) l (if due now q then paidView n i q v else v)

theorem releaseLoop_iff {aid : Nat} {auc : Acc} {n : Nat} :
    ∀ {l : List VQ} {i : Nat} {c c' : Ctx} {v : AView}, c.s.views[aid]? = some v →
    (releaseLoop c aid auc n i l = .ok c' ↔
      (∀ q ∈ l, due c.s.now q = true → 0 ≤ q.amt) ∧
      ∃ b, Pays c (relXfers aid auc c.s.now l) b ∧
        c' = (c.paid (relXfers aid auc c.s.now l) b).setView aid (passView n c.s.now i l v))
  | [], i, c, c', v, hv => by
    simp only [releaseLoop, pure_ok, relXfers, List.filter_nil, List.map_nil, pays_nil, exists_eq_left,
      paid_nil, passView, setView_self hv, List.not_mem_nil, false_imp_iff, implies_true, true_and]
    exact eq_comm
  | q :: l, i, c, c', v, hv => by
    by_cases hd : due c.s.now q = true
    · have hx : relXfers aid auc c.s.now (q :: l) = [relXfer aid auc q] ++ relXfers aid auc c.s.now l := by
        simp [relXfers, hd]
      have hv₁ : ∀ b w, ((c.paid [relXfer aid auc q] b).setView aid w).s.views[aid]? = some w :=
        fun _ _ => getElem?_set_of_get hv
      have hnow : ∀ b w, ((c.paid [relXfer aid auc q] b).setView aid w).s.now = c.s.now := fun _ _ => rfl
      simp only [releaseLoop_due hv hd, releaseLoop_iff (hv₁ _ _), hnow, hx, passView, hd, if_true,
        pays_setView, paid_setView, setView_setView, paid_paid, exists_and_guard, pays_then_pays,
        List.forall_mem_cons, true_imp_iff, and_assoc]
    · have hx : relXfers aid auc c.s.now (q :: l) = relXfers aid auc c.s.now l := by
        simp [relXfers, hd]
      have hd' : ¬ (q.release ≤ c.s.now ∧ (!q.released) = true) := fun e => hd (due_iff.mpr e)
      simp only [releaseLoop, if_neg hd', releaseLoop_iff hv, hx, passView, hd, List.mem_cons,
        forall_eq_or_imp, false_imp_iff, true_and, Bool.false_eq_true, if_false]

/-- `done` has been passed over, `rest` is still to come -/
theorem passView_sorted {n : Nat} {now : Int} : ∀ (rest done : List VQ) (cur : AView),
    cur.vqs = done ++ rest → n = done.length + rest.length →
    ((done ++ rest).map (·.release)).Pairwise (· < ·) →
    passView n now done.length rest cur = { cur with
      a := { cur.a with status := if rest.getLast?.any (due now) then .finished else cur.a.status },
      vqs := done ++ rest.map (rel now) } := by
  intro rest
  induction rest with
  | nil =>
    intro done cur hq _ _
    rw [List.append_nil] at hq
    simp [passView, ← hq]
  | cons q rest ih =>
    intro done cur hq hn hs
    have ih := ih (done ++ [rel now q])
    rw [List.length_append, List.length_singleton, List.append_assoc, List.singleton_append] at ih
    rw [List.length_cons] at hn
    unfold passView
    by_cases hd : due now q = true
    · have hpre : ∀ z ∈ done, z.release < q.release := by
        rw [List.map_append, List.pairwise_append] at hs
        exact fun z hz => hs.2.2 _ (List.mem_map_of_mem hz) _ (by simp)
      have hset : setVQ cur.vqs { q with released := true } = done ++ rel now q :: rest := by
        rw [hq, EscrowInv.rel_due hd]
        exact upsertBy_replace (·.release) { q with released := true } q rest rfl done hpre
      rw [if_pos hd, ih _ (by unfold paidView; split <;> exact hset) (by omega)
        (by simpa [EscrowInv.rel_release] using hs)]
      -- with the last instalment the status was written too
      cases rest with
      | nil => simp [paidView, hn, hd]
      | cons x xs => simp [paidView, hn, List.getLast?_cons_cons]
    · have hrel := EscrowInv.rel_not_due hd
      rw [if_neg hd, ih cur (by rw [hq, hrel]) (by omega) (by rw [hrel]; exact hs)]
      cases rest <;> simp [hd, hrel, List.getLast?_cons_cons]

theorem releaseVesting_iff {c c' : Ctx} {aid : Nat} {v : AView} (hv : c.s.views[aid]? = some v) :
    releaseVesting c aid = .ok c' ↔ (∀ q ∈ v.vqs, due c.s.now q = true → 0 ≤ q.amt) ∧
      ∃ b, Pays c (relXfers aid v.a.auctioneer c.s.now v.vqs) b ∧
        c' = (c.paid (relXfers aid v.a.auctioneer c.s.now v.vqs) b).setView aid
          (passView v.vqs.length c.s.now 0 v.vqs v) := by
  simp only [releaseVesting, view_bind_ok, hv, Option.some.injEq, exists_eq_left', releaseLoop_iff hv]

theorem releaseVesting_ok {c c' : Ctx} {aid : Nat} {v : AView}
    (h : releaseVesting c aid = .ok c') (hv : c.s.views[aid]? = some v) :
    (∀ q ∈ v.vqs, due c.s.now q = true → 0 ≤ q.amt) ∧ OnlyView aid c.s.views c'.s.views ∧
    Ran c c' ((relXfers aid v.a.auctioneer c.s.now v.vqs).map .xfer) ∧
    ((v.vqs.map (·.release)).Pairwise (· < ·) →
      c'.s.views = c.s.views.set aid (v.released c.s.now)) := by
  obtain ⟨h0, b, hp, rfl⟩ := (releaseVesting_iff hv).mp h
  refine ⟨h0, (OnlyView.refl _ _).set _, hp.paid.setView aid _, fun hs => ?_⟩
  rw [setView_views]
  exact congrArg _ (passView_sorted v.vqs [] v rfl (by simp) (by simpa using hs))

theorem relXfers_idle {aid : Nat} {auc : Acc} {now : Int} {l : List VQ} (h : ∀ q ∈ l, due now q = false) :
    relXfers aid auc now l = [] := by
  unfold relXfers
  rw [List.filter_eq_nil_iff.mpr fun q hq => by rw [h q hq]; exact Bool.false_ne_true, List.map_nil]

theorem passView_idle {n : Nat} {now : Int} : ∀ {l : List VQ} {i : Nat} {v : AView},
    (∀ q ∈ l, due now q = false) → passView n now i l v = v
  | [], _, _, _ => rfl
  | q :: _, _, _, h => by
    rw [passView, h q List.mem_cons_self]
    exact passView_idle fun q hq => h q (List.mem_cons_of_mem _ hq)

/-! ### `BeginBlocker`: one iteration, and induction over the loop -/

/-- the record of an auction whose start time has come -/
def AView.opened (v : AView) : AView := { v with a := { v.a with status := .started } }

theorem blockStep_view {c c' : Ctx} {aid : Nat} (h : blockStep c aid = .ok c') :
    ∃ v, c.s.views[aid]? = some v :=
  let ⟨v, hv, _⟩ := view_bind_ok.mp (show (c.view aid >>= _) = .ok c' from h)
  ⟨v, hv⟩

/-- one iteration, by what is due: nothing, the opening, a closing operation, the release -/
theorem blockStep_iff {c c' : Ctx} {aid : Nat} {v : AView} (hv : c.s.views[aid]? = some v) :
    blockStep c aid = .ok c' ↔
    (c' = c ∧ (v.a.status = .standby → c.s.now < v.a.startTime) ∧
      (v.a.status = .started → v.a.endTimes ≠ [] ∧ c.s.now < v.a.lastEnd) ∧ v.a.status ≠ .vesting) ∨
    (v.a.status = .standby ∧ v.a.startTime ≤ c.s.now ∧ c' = c.setView aid v.opened) ∨
    (v.a.status = .started ∧ v.a.endTimes ≠ [] ∧ v.a.lastEnd ≤ c.s.now ∧
      ((v.a.type = .fixed ∧ closeFixed c aid = .ok c') ∨
       (v.a.type = .batch ∧ closeBatch c aid = .ok c'))) ∨
    (v.a.status = .vesting ∧ releaseVesting c aid = .ok c') := by
  simp only [blockStep, view_bind_ok, hv, Option.some.injEq, exists_eq_left']
  cases v.a.status <;>
    simp only [reduceCtorEq, false_and, and_false, or_false, false_or, true_and, false_imp_iff, true_imp_iff,
      ne_eq, not_true_eq_false, not_false_eq_true, and_true, pure_ok, @eq_comm _ c']
  · split <;> rename_i hd
    · simp only [pure_ok, hd, true_and, Int.not_lt.mpr hd, and_false, false_or]; rfl
    · simp only [pure_ok, hd, false_and, or_false, Int.not_le.mp hd, and_true]
  · cases he : v.a.endTimes.getLast? with
    | none => simp [List.getLast?_eq_none_iff.mp he, fail_ok]
    | some e =>
      have hne : v.a.endTimes ≠ [] := fun hn => by rw [hn] at he; cases he
      have hl : v.a.lastEnd = e := by simp [Auction.lastEnd, he]
      simp only [hne, hl, not_false_eq_true, true_and]
      split <;> rename_i hd
      · simp only [hd, Int.not_lt.mpr hd, and_false, false_or, true_and]
        cases v.a.type <;> simp
      · simp only [hd, Int.not_le.mp hd, pure_ok, and_true, false_and, or_false]

theorem blockLoop_induct {Q : Ctx → Ctx → Prop} (refl : ∀ c, Q c c)
    (step : ∀ {c c₁ c' : Ctx} {i : Nat}, blockStep c i = .ok c₁ → Q c₁ c' → Q c c') :
    ∀ {l : List Nat} {c c' : Ctx}, blockLoop c l = .ok c' → Q c c'
  | [], c, c', h => by
    simp only [blockLoop, pure_ok] at h
    exact h ▸ refl c
  | i :: l, c, c', h => by
    simp only [blockLoop, bind_ok] at h
    obtain ⟨c₁, h₁, h₂⟩ := h
    exact step h₁ (blockLoop_induct refl step h₂)

/-! ### the footprint of `BeginBlocker` -/

/-- a transfer the iteration for index `j` (stored auction id `id`) may make: out of an
    escrow of the auction to a user, or the proceeds into its vesting escrow -/
def Own (j id : Nat) (t : Transfer) : Prop :=
  ((t.src = .sell id ∨ t.src = .pay id ∨ t.src = .pay j ∨ t.src = .vest j) ∧ ∃ u, t.dst = .user u) ∨
  (t.src = .pay j ∧ t.dst = .vest j)

theorem settleXfers_own {aid : Nat} {v : AView} {mi : MInfo} {S R : Int} :
    ∀ t ∈ settleXfers aid v mi S R, Own aid v.a.id t := fun t ht =>
  (settleXfers_ends t ht).imp_left (And.imp_left (Or.imp_right (Or.imp_right Or.inl)))

theorem Own.untouched {j : Nat} {t : Transfer} {a : Addr} (h : Own j j t) (h1 : a ≠ .sell j)
    (h2 : a ≠ .pay j) (h3 : a ≠ .vest j) (hu : ∀ u, a ≠ .user u) : t.src ≠ a ∧ t.dst ≠ a := by
  rcases h with ⟨hs, u, hd⟩ | ⟨hs, hd⟩
  · refine ⟨?_, by rw [hd]; exact Ne.symm (hu u)⟩
    rcases hs with e | e | e | e <;> rw [e] <;> exact Ne.symm ‹_›
  · rw [hs, hd]; exact ⟨Ne.symm h2, Ne.symm h3⟩

theorem Settlement.bank_other {c c' : Ctx} {aid : Nat} {v w : AView} {mp : Dec} {mi : MInfo} {S R : Int}
    (h : Settlement c c' aid v mp mi S R w) (hid : v.a.id = aid) {x : Addr}
    (h1 : x ≠ .sell aid) (h2 : x ≠ .pay aid) (h3 : x ≠ .vest aid) (hu : ∀ u, x ≠ .user u) (d : Denom) :
    c'.s.bank x d = c.s.bank x d := by
  rw [h.bank, netFlow_untouched, Int.add_zero]
  intro t ht
  have ho := settleXfers_own t ht
  rw [hid] at ho
  exact ho.untouched h1 h2 h3 hu

theorem blockStep_foot {c c' : Ctx} {i : Nat} (h : blockStep c i = .ok c') :
    ∃ w, c.s.views[i]? = some w ∧ OnlyView i c.s.views c'.s.views ∧
      ∃ E, Ran c c' E ∧ ∀ t ∈ xfersOf E, Own i w.a.id t := by
  obtain ⟨v, hv⟩ := blockStep_view h
  refine ⟨v, hv, ?_⟩
  have quiet : ∀ w, OnlyView i c.s.views (c.setView i w).s.views ∧
      ∃ E, Ran c (c.setView i w) E ∧ ∀ t ∈ xfersOf E, Own i v.a.id t := fun w =>
    ⟨(OnlyView.refl _ _).set w, [], (Ran.refl c).setView i w, List.forall_mem_nil _⟩
  have settles : ∀ {v₁ : AView} {mp : Dec} {mi : MInfo} {S R : Int} {w : AView}, v₁.a.id = v.a.id →
      Settlement c c' i v₁ mp mi S R w → OnlyView i c.s.views c'.s.views ∧
      ∃ E, Ran c c' E ∧ ∀ t ∈ xfersOf E, Own i v.a.id t := fun hid st =>
    ⟨st.views ▸ (OnlyView.refl _ _).set _, _, st.ran, by
      rw [xfersOf_settleEffs, ← hid]; exact settleXfers_own⟩
  rcases (blockStep_iff hv).mp h with ⟨rfl, _⟩ | ⟨_, _, rfl⟩ | ⟨_, _, _, ⟨_, hc⟩ | ⟨_, hc⟩⟩ | ⟨_, hr⟩
  · exact ⟨OnlyView.refl _ _, [], Ran.refl _, List.forall_mem_nil _⟩
  · exact quiet _
  · obtain ⟨_, _, _, st⟩ := closeFixed_ok hc hv
    exact settles rfl st
  · obtain ⟨mi, _, hext, hset⟩ := closeBatch_ok hc hv
    by_cases hd : extDecision v mi
    · rw [hext hd]; exact quiet _
    · obtain ⟨_, _, _, st⟩ := hset hd
      exact settles (v₁ := markBids v mi) rfl st
  · obtain ⟨_, o, r, _⟩ := releaseVesting_ok hr hv
    refine ⟨o, _, r, fun t ht => ?_⟩
    rw [xfersOf_map_xfer] at ht
    obtain ⟨e1, e2⟩ := relXfers_ends t ht
    exact Or.inl ⟨Or.inr (Or.inr (Or.inr e1)), _, e2⟩

/-- distinct indices, so that every transfer can be charged to an index in the list with the
    record that index had at the start -/
theorem blockLoop_foot : ∀ (l : List Nat) {c c' : Ctx}, blockLoop c l = .ok c' → l.Nodup →
    (c'.s.views.length = c.s.views.length ∧ ∀ j, j ∉ l → c'.s.views[j]? = c.s.views[j]?) ∧
    ∃ E, Ran c c' E ∧
      ∀ t ∈ xfersOf E, ∃ j w, j ∈ l ∧ c.s.views[j]? = some w ∧ Own j w.a.id t
  | [], c, c', h, _ => by
    simp only [blockLoop, pure_ok] at h
    subst h
    exact ⟨⟨rfl, fun _ _ => rfl⟩, [], Ran.refl c, List.forall_mem_nil _⟩
  | i :: rest, c, c', h, hnd => by
    rw [List.nodup_cons] at hnd
    simp only [blockLoop, bind_ok] at h
    obtain ⟨c₁, h₁, h⟩ := h
    obtain ⟨w, hw, o₁, E₁, r₁, hx₁⟩ := blockStep_foot h₁
    obtain ⟨⟨hl₂, ho₂⟩, E₂, r₂, hx₂⟩ := blockLoop_foot rest h hnd.2
    refine ⟨⟨hl₂.trans o₁.1, fun j hj => ?_⟩, _, r₁.trans r₂, fun t ht => ?_⟩
    · rw [List.mem_cons, not_or] at hj
      exact (ho₂ j hj.2).trans (o₁.2 j hj.1)
    · rw [xfersOf_append, List.mem_append] at ht
      rcases ht with ht | ht
      · exact ⟨i, w, List.mem_cons_self .., hw, hx₁ t ht⟩
      · obtain ⟨j, w', hj, hw', hs⟩ := hx₂ t ht
        have hji : j ≠ i := fun e => hnd.1 (e ▸ hj)
        exact ⟨j, w', List.mem_cons_of_mem _ hj, by rw [← o₁.2 j hji]; exact hw', hs⟩

theorem blockLoop_append : ∀ (l₁ l₂ : List Nat) (c c' : Ctx),
    blockLoop c (l₁ ++ l₂) = .ok c' ↔ ∃ cm, blockLoop c l₁ = .ok cm ∧ blockLoop cm l₂ = .ok c'
  | [], l₂, c, c' => by
    simp only [List.nil_append, blockLoop, pure_ok, exists_eq_left']
  | a :: rest, l₂, c, c' => by
    simp only [List.cons_append, blockLoop, bind_ok, blockLoop_append rest l₂]
    exact ⟨fun ⟨c₁, h₁, cm, h₂, h₃⟩ => ⟨cm, ⟨c₁, h₁, h₂⟩, h₃⟩,
      fun ⟨cm, ⟨c₁, h₁, h₂⟩, h₃⟩ => ⟨c₁, h₁, cm, h₂, h₃⟩⟩

/-- a successful loop over distinct indices, seen from one of them: its iteration starts from
    a context that still holds the record the index had at the start, what it writes to that
    record is final, and the iterations before and after make only other indices' transfers -/
theorem blockLoop_at {l : List Nat} {c c' : Ctx} {i : Nat} (h : blockLoop c l = .ok c')
    (hnd : l.Nodup) (hi : i ∈ l) :
    ∃ c₁ c₂ E₁ E E₂, blockStep c₁ i = .ok c₂ ∧ Ran c c₁ E₁ ∧ Ran c₁ c₂ E ∧ Ran c₂ c' E₂ ∧
      c₁.s.views[i]? = c.s.views[i]? ∧ c'.s.views[i]? = c₂.s.views[i]? ∧
      (∀ t ∈ xfersOf E₁ ++ xfersOf E₂, ∃ j w, j ≠ i ∧ c.s.views[j]? = some w ∧ Own j w.a.id t) := by
  obtain ⟨s, r, rfl⟩ := List.append_of_mem hi
  rw [List.nodup_append] at hnd
  obtain ⟨hs, hir, hdis⟩ := hnd
  rw [List.nodup_cons] at hir
  have his : i ∉ s := fun hm => hdis i hm i (List.mem_cons_self ..) rfl
  obtain ⟨c₁, hA, hB⟩ := (blockLoop_append _ _ _ _).mp h
  simp only [blockLoop, bind_ok] at hB
  obtain ⟨c₂, hstep, hC⟩ := hB
  obtain ⟨⟨_, hoA⟩, E₁, rA, hxA⟩ := blockLoop_foot s hA hs
  obtain ⟨⟨_, hoC⟩, E₂, rC, hxC⟩ := blockLoop_foot r hC hir.2
  obtain ⟨_, _, oS, E, rS, _⟩ := blockStep_foot hstep
  refine ⟨c₁, c₂, E₁, E, E₂, hstep, rA, rS, rC, hoA i his, hoC i hir.1, fun t ht => ?_⟩
  rcases List.mem_append.mp ht with ht | ht
  · obtain ⟨j, w, hj, hw, ho⟩ := hxA t ht
    exact ⟨j, w, fun e => his (e ▸ hj), hw, ho⟩
  · obtain ⟨j, w, hj, hw, ho⟩ := hxC t ht
    have hji : j ≠ i := fun e => hir.1 (e ▸ hj)
    have hjs : j ∉ s := fun hm => hdis j hm j (List.mem_cons_of_mem _ hj) rfl
    exact ⟨j, w, hji, by rw [← hoA j hjs, ← oS.2 j hji]; exact hw, ho⟩

end Fundraising
