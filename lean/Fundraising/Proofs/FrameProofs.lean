import Fundraising.Proofs.FrameViews
/-
  C08 / C10–C13 / C19 — who may change what.  `At` says what one operation did to one record;
  a successful handler on auction `aid` is `On … aid` (its footprint `FP aid`, and the `At` of
  the record it rewrote), read off Proofs/OpsMsgs.lean; `BeginBlocker` takes every record a
  `BRel` step and leaves idle auctions alone (`block_spec`, from Proofs/OpsBlock.lean);
  `step_at` puts the two together, and the theorems Props/C08, C10–C13, C19 cite are read
  off it.
-/
namespace Fundraising.Frame

/-- what an operation other than `reset` did to the record `v` of auction `i` -/
inductive At (s : Core) (op : Op) (s' : Core) (i : Nat) (v : AView) : AView → Prop
  | same : At s op s' i v v
  | block (t : Int) {v' : AView} (hop : op = .block t) (r : BRel t s.params.period v v') : At s op s' i v v'
  | cancel (signer : Acc) (hop : op = .msg (.cancel signer i))
      (hsigner : v.a.auctioneer = signer) (hst : v.a.status = .standby)
      (hbank : s'.bank = s.bank.move (.sell i) (.user v.a.auctioneer) v.a.sellDenom
        (s.bank (.sell i) v.a.sellDenom)) :
      At s op s' i v v.cancelled
  | place (bidder : Acc) (t : BidType) (price : Dec) (denom : Denom) (amt : Int) (r : Int) (m : Bool)
      (hop : op = .msg (.place bidder i (some t) price denom amt))
      (hst : v.a.status = .started) (hallowed : (lookupAllowed v.allowed bidder).isSome = true) :
      At s op s' i v { v with
          a := { v.a with remaining := r },
          bids := v.bids ++ [⟨i, v.bidSeq + 1, bidder, t, price, denom, amt, m⟩],
          bidSeq := v.bidSeq + 1 }
  | modify (bidder : Acc) (bidId : Nat) (price : Dec) (denom : Denom) (amt : Int) (bid : Bid)
      (hop : op = .msg (.modify bidder i bidId price denom amt))
      (hst : v.a.status = .started) (hty : v.a.type = .batch)
      (hfind : v.bids.find? (·.id == bidId) = some bid)
      (hbidder : bid.bidder = bidder) (hdenom : bid.denom = denom)
      (hprice : bid.price ≤ price) (hamt : bid.amt ≤ amt) :
      At s op s' i v (v.modified bidId { bid with price := price, amt := amt })
  | allowed (l : List Allowed) (hmsg : ∀ m, op = .msg m → s.enableAdd = true)
      (kept : ∀ y ∈ v.allowed, ∃ y' ∈ l, y'.bidder = y.bidder) :
      At s op s' i v { v with allowed := l }

/-! ### the message handlers -/

/-- a handler that works on auction `aid` ran: its footprint, and what it did to the record -/
def On (s : Core) (op : Op) (s' : Core) (aid : Nat) : Prop :=
  FP aid s s' ∧ ∃ w w', s.views[aid]? = some w ∧ s'.views[aid]? = some w' ∧ At s op s' aid w w'

theorem On.write {s : Core} {op : Op} {aid : Nat} {w w' : AView} {b : Bank} (hw : s.views[aid]? = some w)
    (hb : OtherEsc aid s.bank b) (a : At s op { s with bank := b, views := s.views.set aid w' } aid w w') :
    On s op { s with bank := b, views := s.views.set aid w' } aid :=
  ⟨⟨List.length_set, fun _ hj => List.getElem?_set_ne (Ne.symm hj), hb, rfl, rfl, rfl⟩,
    w, w', hw, getElem?_set_of_get hw, a⟩

theorem On.at {s s' : Core} {op : Op} {aid : Nat} (h : On s op s' aid) {i : Nat} {v : AView}
    (hv : s.views[i]? = some v) : ∃ v', s'.views[i]? = some v' ∧ At s op s' i v v' := by
  obtain ⟨fp, w, w', pre, post, a⟩ := h
  by_cases hi : i = aid
  · subst hi
    obtain rfl : w = v := Option.some.inj (pre.symm.trans hv)
    exact ⟨w', post, a⟩
  · exact ⟨v, (fp.others i hi).trans hv, .same⟩

theorem cancelAuction_on {c c' : Ctx} {signer : Acc} {aid : Nat} (h : cancelAuction c signer aid = .ok c') :
    On c.s (.msg (.cancel signer aid)) c'.s aid := by
  obtain ⟨v, hv, hsig, hst, -, -, b, hp, rfl⟩ := cancelAuction_iff.mp h
  exact .write hv (sendAll_other (cancelXfer_loc c aid v) hp.funds)
    (.cancel signer rfl hsig hst (sendAll_cancel.mp hp.funds))

theorem placeBid_on {c c' : Ctx} {bidder : Acc} {aid : Nat} {t : BidType} {price : Dec} {denom : Denom}
    {amt : Int} (h : placeBid c bidder aid t price denom amt = .ok c') :
    On c.s (.msg (.place bidder aid (some t) price denom amt)) c'.s aid := by
  obtain ⟨v, ab, hv, hst, -, hab, -, -, -, b, hp, rfl⟩ := placeBid_iff.mp h
  obtain ⟨r, m, e⟩ := v.placed_eq (v.newBid aid bidder t price denom amt)
  rw [e]
  exact .write hv (sendAll_other (placeXfers_loc c aid v _) hp.funds)
    (.place bidder t price denom amt r m rfl hst (by rw [hab]; rfl))

theorem modifyBid_on {c c' : Ctx} {bidder : Acc} {aid bidId : Nat} {price : Dec} {denom : Denom}
    {amt : Int} (h : modifyBid c bidder aid bidId price denom amt = .ok c') :
    On c.s (.msg (.modify bidder aid bidId price denom amt)) c'.s aid := by
  obtain ⟨v, bid, hv, hst, hty, hfind, hbd, -, hden, hge, -, -, -, b, hp, rfl⟩ := modifyBid_iff.mp h
  exact .write hv (sendAll_other (modifyXfers_loc aid bidder _) hp.funds)
    (.modify bidder bidId price denom amt bid rfl hst hty hfind hbd hden hge.1 hge.2)

/-- `AddAllowedBidders`, as the keeper API and as the message served where the switch is on -/
theorem addAllowedBidders_on {c c' : Ctx} {aid : Nat} {abs : List AllowedArg} (op : Op)
    (hmsg : ∀ m, op = .msg m → c.s.enableAdd = true) (h : addAllowedBidders c aid abs = .ok c') :
    On c.s op c'.s aid := by
  obtain ⟨-, v, hv, -, -, rfl⟩ := addAllowedBidders_iff.mp h
  exact .write hv (OtherEsc.refl _ _) (.allowed _ hmsg fun _ => WFInv.setAllowed_foldl_keys)

theorem updateAllowedBidder_on {c c' : Ctx} {aid : Nat} {bidder : Acc} {cap : Int}
    (h : updateAllowedBidder c aid bidder cap = .ok c') : On c.s (.kupd aid bidder cap) c'.s aid := by
  obtain ⟨v, hv, -, -, -, rfl⟩ := updateAllowedBidder_iff.mp h
  exact .write hv (OtherEsc.refl _ _) (.allowed _ (fun _ e => nomatch e) fun _ => WFInv.setAllowed_keys)

theorem createAuction_appends {c c' : Ctx} {m : CreateMsg} (h : createAuction c m = .ok c') :
    ∃ nv, c'.s.views = c.s.views ++ [nv] ∧ OtherEsc c.s.views.length c.s.bank c'.s.bank := by
  obtain ⟨-, -, -, -, -, -, b, hp, rfl⟩ := createAuction_iff.mp h
  exact ⟨_, rfl, sendAll_other (createXfers_loc c m) hp.funds⟩

/-- `step_at` for a message, in any state: `msg_keeps_allowlists` has no well-formedness to offer -/
theorem msg_at (st : State) (m : Msg) {i : Nat} {v : AView} (hv : st.core.views[i]? = some v) :
    ∃ v', (step st (.msg m)).2.core.views[i]? = some v' ∧
      At st.core (.msg m) (step st (.msg m)).2.core i v v' := by
  refine runAtomic_keeps (fun s' => ∃ v', s'.views[i]? = some v' ∧ At st.core (.msg m) s' i v v')
    st true _ (fun c hc => ?_) ⟨v, hv, .same⟩
  exact handle_cases (P := fun m c' => ∃ v', c'.s.views[i]? = some v' ∧ At st.core (.msg m) c'.s i v v')
    (deliver_iff.mp hc).2
    (fun _ h =>
      let ⟨_, hvs, _⟩ := createAuction_appends h
      ⟨v, by rw [hvs, List.getElem?_append_left (lt_of_getElem? hv)]; exact hv, .same⟩)
    (fun _ _ h => (cancelAuction_on h).at hv)
    (fun _ _ _ _ _ _ h => (placeBid_on h).at hv)
    (fun _ _ _ _ _ _ h => (modifyBid_on h).at hv)
    (fun _ _ hen h => (addAllowedBidders_on _ (fun _ _ => hen) h).at hv)
    (fun _ _ _ _ _ => ⟨v, hv, .same⟩)

theorem targeted_fp (st : State) (op : Op) (a : Nat) (ht : op.target = some a) :
    FP a st.core (step st op).2.core := by
  cases op with
  | msg m =>
    refine runAtomic_keeps (FP a st.core) st true _ (fun c hc => ?_) (FP.refl _ _)
    exact handle_cases (P := fun m c' => (Op.msg m).target = some a → FP a st.core c'.s)
      (deliver_iff.mp hc).2
      (fun _ _ e => by cases e)
      (fun _ _ h e => Option.some.inj e ▸ (cancelAuction_on h).1)
      (fun _ _ _ _ _ _ h e => Option.some.inj e ▸ (placeBid_on h).1)
      (fun _ _ _ _ _ _ h e => Option.some.inj e ▸ (modifyBid_on h).1)
      (fun _ _ hen h e => Option.some.inj e ▸ (addAllowedBidders_on (.msg m) (fun _ _ => hen) h).1)
      (fun _ _ _ _ _ e => by cases e) ht
  | kadd aid abs =>
    obtain rfl : aid = a := Option.some.inj ht
    exact runAtomic_keeps (FP aid st.core) st true _ (fun _ hc => (addAllowedBidders_on (.kadd aid abs) (fun _ e => nomatch e) hc).1)
      (FP.refl _ _)
  | kupd aid u cap =>
    obtain rfl : aid = a := Option.some.inj ht
    exact runAtomic_keeps (FP aid st.core) st true _ (fun _ hc => (updateAllowedBidder_on hc).1) (FP.refl _ _)
  | _ => cases ht

/-! ### `BeginBlocker` -/

theorem blockStep_brel {c c' : Ctx} {aid : Nat} {v : AView} (h : blockStep c aid = .ok c')
    (hv : c.s.views[aid]? = some v) (w : ViewWF aid v) :
    ∃ v', c'.s.views[aid]? = some v' ∧ BRel c.s.now c.s.params.period v v' := by
  rcases (blockStep_iff hv).mp h with ⟨rfl, _⟩ | ⟨hs, _, rfl⟩ | ⟨hs, hne, hdue, ⟨_, hc⟩ | ⟨hty, hc⟩⟩ | ⟨hs, hr⟩
  · exact ⟨v, hv, BRel.refl _ _ _⟩
  · refine ⟨_, view_setView hv, rfl, ?_, nofun, Or.inl rfl, ⟨(·.matched), map_matched_self _⟩, rfl,
      rfl, fun q hq => ⟨q, hq, rfl, rfl, id⟩⟩
    rw [hs]; rfl
  · obtain ⟨_, _, _, st⟩ := closeFixed_ok hc hv
    exact ⟨_, st.get hv, brel_of_srel hs (w.vqsNone (Or.inr (Or.inl hs))) ⟨_, map_matched_self _⟩
      v.matchedLen (srel_of_settled st.view)⟩
  · obtain ⟨mi, _, hext, hset⟩ := closeBatch_ok hc hv
    by_cases hd : extDecision v mi
    · rw [hext hd]
      refine ⟨_, view_setView hv, ?_, statusEdge_refl _, id,
        Or.inr ⟨hs, hty, hdue, hd.1, rfl, hs⟩, ⟨_, rfl⟩, rfl, rfl, fun q hq => ⟨q, hq, rfl, rfl, id⟩⟩
      simp only [Auction.terms, AView.extended, markBids, head?_append_ne hne]
    · obtain ⟨_, _, _, st⟩ := hset hd
      exact ⟨_, st.get hv, brel_of_srel hs (w.vqsNone (Or.inr (Or.inl hs))) ⟨_, rfl⟩
        mi.matchedLen (srel_of_settled st.view)⟩
  · obtain ⟨_, _, _, hviews⟩ := releaseVesting_ok hr hv
    exact ⟨_, by rw [hviews (vqs_sorted aid v w)]; exact getElem?_set_of_get hv,
      brel_of_rrel hs (rrel_released v _)⟩

theorem blockStep_idle {c c' : Ctx} {aid : Nat} {v : AView} (h : blockStep c aid = .ok c')
    (hv : c.s.views[aid]? = some v) (hidle : idleAt v c.s.now = true) : c' = c := by
  unfold idleAt at hidle
  rcases (blockStep_iff hv).mp h with ⟨rfl, _⟩ | ⟨hs, hle, _⟩ | ⟨hs, _, hdue, _⟩ | ⟨hs, hr⟩
  · rfl
  · rw [hs] at hidle; simp only [decide_eq_true_eq] at hidle; omega
  · rw [hs] at hidle; simp only [decide_eq_true_eq] at hidle; omega
  · rw [hs] at hidle
    have hnd : ∀ q ∈ v.vqs, EscrowInv.due c.s.now q = false := fun q hq => by
      have := List.all_eq_true.mp hidle q hq
      cases hrel : q.released <;> simp [EscrowInv.due, hrel] at this ⊢
      omega
    obtain ⟨-, b, hp, rfl⟩ := (releaseVesting_iff hv).mp hr
    rw [relXfers_idle hnd] at hp ⊢
    rw [pays_nil.mp hp, paid_nil, passView_idle hnd, setView_self hv]

theorem same_of_foreign {c c' : Ctx} {E : List Eff} {j : Nat} (r : Ran c c' E)
    (h : ∀ t ∈ xfersOf E, ∃ j', j' ≠ j ∧ Own j' j' t) : SameEscrows c.s c'.s j := by
  have key : ∀ a, esc a = some j → ∀ d, c'.s.bank a d = c.s.bank a d := by
    intro a ha d
    rw [r.apply, netFlow_untouched, Int.add_zero]
    intro t ht
    obtain ⟨j', hj', ho⟩ := h t ht
    refine ho.untouched (fun e => ?_) (fun e => ?_) (fun e => ?_) (fun u e => ?_)
    all_goals subst e; simp [esc, hj'] at ha
  exact fun d => ⟨key _ rfl d, key _ rfl d, key _ rfl d⟩

theorem blockLoop_spec {l : List Nat} {c c' : Ctx} (hnd : l.Nodup)
    (hwf : ∀ i v, c.s.views[i]? = some v → ViewWF i v) (h : blockLoop c l = .ok c') :
    (∀ i ∈ l, ∀ v, c.s.views[i]? = some v →
      ∃ v', c'.s.views[i]? = some v' ∧ BRel c.s.now c.s.params.period v v') ∧
    (∀ j v, c.s.views[j]? = some v → idleAt v c.s.now = true →
      c'.s.views[j]? = some v ∧ SameEscrows c.s c'.s j) := by
  -- a transfer owned by index `j'` is one of auction `j'`: stored ids are the indices
  have own : ∀ {t j' w}, c.s.views[j']? = some w → Own j' w.a.id t → Own j' j' t :=
    fun hw ho => (hwf _ _ hw).id ▸ ho
  refine ⟨fun i hi v hv => ?_, fun j v hv hidle => ?_⟩
  · obtain ⟨c₁, c₂, _, _, _, hstep, rA, _, _, hv₁, hfin, _⟩ := blockLoop_at h hnd hi
    obtain ⟨v', hv', b⟩ := blockStep_brel hstep (hv₁.trans hv) (hwf i v hv)
    exact ⟨v', hfin.trans hv', rA.now ▸ rA.params ▸ b⟩
  · by_cases hj : j ∈ l
    · obtain ⟨c₁, c₂, E₁, E₀, E₂, hstep, rA, rS, rC, hv₁, hfin, hfor⟩ := blockLoop_at h hnd hj
      have e := blockStep_idle hstep (hv₁.trans hv) (by rw [rA.now]; exact hidle)
      subst e
      have e₀ : E₀ = [] := List.self_eq_append_right.mp rS.effs
      refine ⟨hfin.trans (hv₁.trans hv), same_of_foreign ((rA.trans rS).trans rC) fun t ht => ?_⟩
      rw [e₀, List.append_nil, xfersOf_append] at ht
      obtain ⟨j', w, hj', hw, ho⟩ := hfor t ht
      exact ⟨j', hj', own hw ho⟩
    · obtain ⟨⟨_, hout⟩, E, r, hx⟩ := blockLoop_foot l h hnd
      refine ⟨(hout j hj).trans hv, same_of_foreign r fun t ht => ?_⟩
      obtain ⟨j', w, hj', hw, ho⟩ := hx t ht
      exact ⟨j', fun e => hj (e ▸ hj'), own hw ho⟩

theorem block_spec (st : State) (t : Int) (hwf : WF st.core) :
    (∀ (i : Nat) (v : AView), st.core.views[i]? = some v →
      ∃ v', (step st (.block t)).2.core.views[i]? = some v' ∧ BRel t st.core.params.period v v') ∧
    (∀ (j : Nat) (v : AView), st.core.views[j]? = some v → idleAt v t = true →
      (step st (.block t)).2.core.views[j]? = some v ∧
      SameEscrows st.core (step st (.block t)).2.core j) := by
  refine runAtomic_keeps (fun s' =>
      (∀ i v, st.core.views[i]? = some v → ∃ v', s'.views[i]? = some v' ∧ BRel t st.core.params.period v v') ∧
      (∀ j v, st.core.views[j]? = some v → idleAt v t = true →
        s'.views[j]? = some v ∧ SameEscrows st.core s' j))
    { st with core := { st.core with now := t } } false _ (fun c hc => ?_)
    ⟨fun i v hv => ⟨v, hv, BRel.refl _ _ _⟩, fun j v hv _ => ⟨hv, sameEscrows_of_bank rfl j⟩⟩
  obtain ⟨hin, hidl⟩ := blockLoop_spec List.nodup_range hwf.views hc
  exact ⟨fun i v hv => hin i (List.mem_range.mpr (lt_of_getElem? hv)) v hv, hidl⟩

/-! ### one `step` -/

theorem step_at (st : State) (op : Op) (hop : op ≠ .reset) (hwf : WF st.core) {i : Nat} {v : AView}
    (hv : st.core.views[i]? = some v) :
    ∃ v', (step st op).2.core.views[i]? = some v' ∧ At st.core op (step st op).2.core i v v' := by
  cases op with
  | reset => exact absurd rfl hop
  | msg m => exact msg_at st m hv
  | kadd aid abs =>
    exact runAtomic_keeps (fun s' => ∃ v', s'.views[i]? = some v' ∧ At st.core (.kadd aid abs) s' i v v')
      st true _ (fun _ hc => (addAllowedBidders_on (.kadd aid abs) (fun _ e => nomatch e) hc).at hv) ⟨v, hv, .same⟩
  | kupd aid u cap =>
    exact runAtomic_keeps (fun s' => ∃ v', s'.views[i]? = some v' ∧ At st.core (.kupd aid u cap) s' i v v')
      st true _ (fun _ hc => (updateAllowedBidder_on hc).at hv) ⟨v, hv, .same⟩
  | block t =>
    obtain ⟨v', hv', r⟩ := (block_spec st t hwf).1 i v hv
    exact ⟨v', hv', .block t rfl r⟩
  | gift src dst d amt =>
    refine ⟨v, ?_, .same⟩
    rcases step_gift st src dst d amt with e | ⟨-, -, -, e⟩ <;> rw [e] <;> exact hv
  | genesis => rw [step_genesis st hwf]; exact ⟨v, hv, .same⟩
  | _ => exact ⟨v, hv, .same⟩

end Fundraising.Frame

namespace Fundraising

theorem view_step (st : State) (op : Op) (hop : op ≠ .reset) (hwf : WF st.core) (i : Nat) (v : AView)
    (hv : st.core.views[i]? = some v) :
    ∃ v', (step st op).2.core.views[i]? = some v' ∧ ViewStep v v' := by
  obtain ⟨v', hv', a⟩ := Frame.step_at st op hop hwf hv
  refine ⟨v', hv', ?_⟩
  cases a with
  | same => exact Frame.viewStep_refl v
  | block t hop' r => exact r.viewStep
  | cancel signer hop' hsigner hst hbank => exact Frame.viewStep_cancel hst
  | place bidder t price denom amt r m hop' hst hallowed => exact Frame.viewStep_place v r _
  | modify bidder bidId price denom amt bid hop' hst hty hfind hbidder hdenom hprice hamt =>
    exact Frame.viewStep_modify (hwf.views i v hv) hfind hprice hamt
  | allowed l hmsg kept => exact Frame.viewStep_allowed v kept

theorem views_grow (st : State) (op : Op) (hop : op ≠ .reset) (hwf : WF st.core) :
    st.core.views.length ≤ (step st op).2.core.views.length := by
  -- were the list shorter, its length would be an index `view_step` finds a record at
  refine Nat.le_of_not_lt fun hlt => ?_
  obtain ⟨v', hv', _⟩ := view_step st op hop hwf _ _ (List.getElem?_eq_getElem hlt)
  exact Nat.lt_irrefl _ (lt_of_getElem? hv')

theorem frame_target (st : State) (op : Op) (a : Nat) (ht : op.target = some a) (j : Nat) (hj : j ≠ a) :
    (step st op).2.core.views[j]? = st.core.views[j]? ∧ SameEscrows st.core (step st op).2.core j := by
  have fp := Frame.targeted_fp st op a ht
  exact ⟨fp.others j hj, fp.bank.same hj⟩

theorem frame_create (st : State) (m : CreateMsg) (j : Nat) (hj : j < st.core.views.length) :
    (step st (.msg (.create m))).2.core.views[j]? = st.core.views[j]? ∧
    SameEscrows st.core (step st (.msg (.create m))).2.core j ∧
    (step st (.msg (.create m))).2.core.views.length ≤ st.core.views.length + 1 := by
  refine runAtomic_keeps (fun s' => s'.views[j]? = st.core.views[j]? ∧ SameEscrows st.core s' j ∧
    s'.views.length ≤ st.core.views.length + 1) st true _ (fun c hc => ?_)
    ⟨rfl, Frame.sameEscrows_of_bank rfl j, Nat.le_succ _⟩
  obtain ⟨nv, h1, h2⟩ := Frame.createAuction_appends (deliver_iff.mp hc).2
  refine ⟨?_, h2.same (Nat.ne_of_lt hj), ?_⟩
  · rw [h1, List.getElem?_append_left hj]
  · rw [h1, List.length_append]
    exact Nat.le_refl _

theorem frame_block_idle (st : State) (t : Int) (hwf : WF st.core) (j : Nat) (v : AView)
    (hv : st.core.views[j]? = some v) (hidle : idleAt v t = true) :
    (step st (.block t)).2.core.views[j]? = some v ∧
    SameEscrows st.core (step st (.block t)).2.core j := by
  exact (Frame.block_spec st t hwf).2 j v hv hidle

/-- C12: an auction becomes cancelled in one step only through `MsgCancelAuction` signed by its
    auctioneer while it is in stand-by, and then its selling escrow's whole selling-denom balance
    goes to the auctioneer, the published remainder is zero -/
theorem cancelled_only_by_cancel (st : State) (op : Op) (hop : op ≠ .reset) (hwf : WF st.core)
    (i : Nat) (v v' : AView) (hv : st.core.views[i]? = some v)
    (hv' : (step st op).2.core.views[i]? = some v')
    (hs : v.a.status ≠ .cancelled) (hs' : v'.a.status = .cancelled) :
    op = .msg (.cancel v.a.auctioneer i) ∧ v.a.status = .standby ∧
    (v.a.type = .fixed → v'.a.remaining = 0) ∧
    (step st op).2.core.bank (.sell i) v.a.sellDenom = 0 ∧
    (step st op).2.core.bank (.user v.a.auctioneer) v.a.sellDenom =
      st.core.bank (.user v.a.auctioneer) v.a.sellDenom + st.core.bank (.sell i) v.a.sellDenom := by
  obtain ⟨v'', hv'', a⟩ := Frame.step_at st op hop hwf hv
  obtain rfl : v'' = v' := Option.some.inj (hv''.symm.trans hv')
  cases a with
  | block t hop' r => exact absurd (r.notCancel hs') hs
  | cancel signer hop' hsigner hst hbank =>
    subst hsigner
    refine ⟨hop', hst, ?_, ?_, ?_⟩
    · intro hty; simp [AView.cancelled, hty]
    · rw [hbank]; simp [move_apply]
    · rw [hbank]; simp [move_apply]
  | _ => exact absurd hs' hs

/-- C08, C11: bids change only through their owner's MsgModifyBid, new bids come only through
    MsgPlaceBid, only while the auction is open -/
theorem bids_change_only_by_owner (st : State) (op : Op) (hop : op ≠ .reset) (hwf : WF st.core)
    (i : Nat) (v v' : AView) (hv : st.core.views[i]? = some v)
    (hv' : (step st op).2.core.views[i]? = some v') :
    -- price/amount of an existing bid changed ⇒ it was the owner's modify on an open batch auction
    (∀ b ∈ v.bids, ∀ b' ∈ v'.bids, b'.id = b.id → (b'.price ≠ b.price ∨ b'.amt ≠ b.amt) →
        v.a.status = .started ∧ v.a.type = .batch ∧
        op = .msg (.modify b.bidder i b.id b'.price b.denom b'.amt)) ∧
    -- a bid was added ⇒ it was a place-bid on an open auction by an allow-listed bidder
    (v.bids.length < v'.bids.length →
        v.a.status = .started ∧ v'.bids.length = v.bids.length + 1 ∧
        ∃ b, v'.bids.getLast? = some b ∧ b.id = v.bids.length + 1 ∧
          (lookupAllowed v.allowed b.bidder).isSome = true ∧
          op = .msg (.place b.bidder i (some b.type) b.price b.denom b.amt)) := by
  show Frame.BidsClaim op i v v'
  have w := hwf.views i v hv
  obtain ⟨v'', hv'', a⟩ := Frame.step_at st op hop hwf hv
  obtain rfl : v'' = v' := Option.some.inj (hv''.symm.trans hv')
  cases a with
  | block t hop' r =>
    obtain ⟨f, hf⟩ := r.bids
    exact Frame.bidsClaim_flags w f hf
  | place bidder t price denom amt r m hop' hst hallowed =>
    constructor
    · intro b hb b' hb' hid hne
      rcases List.mem_append.mp hb' with h1 | h1
      · obtain rfl := WFInv.bidIds_inj w.bidIds h1 hb hid
        simp at hne
      · -- the new bid has the id after the last one
        obtain rfl := List.mem_singleton.mp h1
        obtain ⟨k, hk⟩ := List.getElem?_of_mem hb
        have h2 := WFInv.bidIds_at w.bidIds hk
        have h3 := lt_of_getElem? hk
        have h4 := w.bidSeq
        simp only at hid
        omega
    · intro _
      refine ⟨hst, by simp, ⟨i, v.bidSeq + 1, bidder, t, price, denom, amt, m⟩, by simp, ?_, hallowed, hop'⟩
      show v.bidSeq + 1 = v.bids.length + 1
      rw [w.bidSeq]
  | modify bidder bidId price denom amt bid hop' hst hty hfind hbidder hdenom hprice hamt =>
    obtain ⟨hmem, hbid, hat⟩ := Frame.find_unique w hfind
    constructor
    · intro b hb b' hb' hid hne
      obtain ⟨x, hx, rfl⟩ := List.mem_map.mp hb'
      rcases hat { bid with price := price, amt := amt } x hx with ⟨rfl, e⟩ | ⟨-, e⟩
      · rw [e] at hid ⊢
        obtain rfl := WFInv.bidIds_inj w.bidIds hx hb hid
        exact ⟨hst, hty, by rw [hop', hbidder, hdenom, hbid]⟩
      · rw [e] at hid hne
        obtain rfl := WFInv.bidIds_inj w.bidIds hx hb hid
        simp at hne
    · intro hlt
      simp only [AView.modified, List.length_map] at hlt
      omega
  | _ => exact Frame.bidsClaim_flags w _ (Frame.map_matched_self _)

theorem msg_keeps_allowlists (st : State) (m : Msg) (hoff : st.core.enableAdd = false)
    (i : Nat) (v : AView) (hv : st.core.views[i]? = some v) :
    ∃ v', (step st (.msg m)).2.core.views[i]? = some v' ∧ v'.allowed = v.allowed := by
  obtain ⟨v', hv', a⟩ := Frame.msg_at st m hv
  refine ⟨v', hv', ?_⟩
  cases a with
  | block t hop' r => cases hop'
  | allowed l hmsg kept =>
    have := hmsg m rfl
    rw [hoff] at this
    cases this
  | _ => rfl

theorem addAllowed_rejected (st : State) (aid : Nat) (ab : AllowedArg) (hoff : st.core.enableAdd = false) :
    (step st (.msg (.addAllowed aid ab))).1.res ≠ .ok ∧
    (step st (.msg (.addAllowed aid ab))).2.core = st.core := by
  show (runAtomic st true _).1.res ≠ .ok ∧ (runAtomic st true _).2.core = st.core
  rcases runAtomic_cases st true (fun c => deliver c (.addAllowed aid ab)) with
    ⟨c, hc, e⟩ | ⟨e, _, hs, hr⟩
  · have h := (handle_addAllowed_iff.mp (deliver_iff.mp hc).2).1
    simp only at h
    rw [hoff] at h
    cases h
  · exact ⟨hr, by rw [hs]⟩

/-- C13: an operation changes an auction's end times only by appending
    exactly one end time, one extended period after the last one, in a block at or after
    that last end time, and only while rounds are left -/
theorem endTimes_step (st : State) (op : Op) (hop : op ≠ .reset) (hwf : WF st.core)
    (i : Nat) (v v' : AView) (hv : st.core.views[i]? = some v)
    (hv' : (step st op).2.core.views[i]? = some v') (hne : v'.a.endTimes ≠ v.a.endTimes) :
    ∃ t, op = .block t ∧ v.a.status = .started ∧ v.a.type = .batch ∧ v.a.lastEnd ≤ t ∧
      v.a.endTimes.length < v.a.maxExt + 1 ∧
      v'.a.endTimes = v.a.endTimes ++ [v.a.lastEnd + 86400 * (st.core.params.period : Int)] ∧
      v'.a.status = .started := by
  obtain ⟨v'', hv'', a⟩ := Frame.step_at st op hop hwf hv
  obtain rfl : v'' = v' := Option.some.inj (hv''.symm.trans hv')
  cases a with
  | block t hop' r =>
    rcases r.ends with e | ⟨h1, h2, h3, h4, h5, h6⟩
    · exact absurd e hne
    · have h7 := (hwf.views i v hv).auction.endLen
      exact ⟨t, hop', h1, h2, h3, by omega, h5, h6⟩
  | _ => exact absurd rfl hne

end Fundraising
