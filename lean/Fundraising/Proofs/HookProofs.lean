import Fundraising.Proofs.Exec
/-
  C17 — the hook entries of an effect log (`hooksOf`) and what the two ways a handler writes to the
  log do to them: a bank call adds none, a hook call one per registered listener.  Props/C17.lean
  reads each handler's log off its equivalence in Proofs/OpsMsgs.lean.
-/
namespace Fundraising

/-- the hook entries of an effect log, in order -/
def hooksOf (effs : List Eff) : List (Nat × String × List String) :=
  effs.filterMap (fun e => match e with | .hook i n a => some (i, n, a) | .xfer _ => none)

/-- `n` listeners each called once, in registration order, with the same arguments -/
def calledOnce (n : Nat) (name : String) (args : List String) : List (Nat × String × List String) :=
  (List.range n).map (fun i => (i, name, args))

namespace HookInv

theorem hooksOf_append (l l' : List Eff) : hooksOf (l ++ l') = hooksOf l ++ hooksOf l' :=
  List.filterMap_append

theorem hooksOf_xfer (t : Transfer) : hooksOf [.xfer t] = [] := rfl

theorem hooksOf_hooks (name : String) (args : List String) (is : List Nat) :
    hooksOf (is.map (fun i => Eff.hook i name args)) = is.map (fun i => (i, name, args)) := by
  induction is with
  | nil => rfl
  | cons i is ih => exact congrArg ((i, name, args) :: ·) ih

theorem hooksOf_xfers (xs : List Transfer) : hooksOf (xs.map Eff.xfer) = [] := by
  induction xs with
  | nil => rfl
  | cons t ts ih => exact ih

theorem hooksOf_paid (c : Ctx) (xs : List Transfer) (b : Bank) :
    hooksOf (c.paid xs b).effs = hooksOf c.effs := by
  show hooksOf (c.effs ++ xs.map Eff.xfer) = _
  rw [hooksOf_append, hooksOf_xfers, List.append_nil]

theorem hooksOf_heard (c : Ctx) (name : String) (args : List String) :
    hooksOf (c.heard name args).effs = hooksOf c.effs ++ calledOnce c.ctl.listeners name args := by
  show hooksOf (c.effs ++ (List.range c.ctl.listeners).map fun i => Eff.hook i name args) = _
  rw [hooksOf_append, hooksOf_hooks]
  rfl

/-! `Grow c c' hs`: the same bookkeeping as a relation between two contexts.  It composes
    (`Grow.trans`; `Grow.trans_nil` for a stretch without hook entries) and, from an empty log,
    gives the hook entries of a run (`Grow.start`).  Props/C17.lean reads the entries off the closed
    form of each handler's final context with `hooksOf_paid` and `hooksOf_heard`; no other theorem
    uses `Grow`. -/

/-- from `c` to `c'` the controls and the collections are unchanged and the log grew by
    transfers and exactly the hook entries `hs` -/
def Grow (c c' : Ctx) (hs : List (Nat × String × List String)) : Prop :=
  c'.ctl = c.ctl ∧ c'.s.views = c.s.views ∧ ∃ l, c'.effs = c.effs ++ l ∧ hooksOf l = hs

theorem Grow.trans {c c' c'' : Ctx} {hs hs' : List (Nat × String × List String)}
    (h : Grow c c' hs) (h' : Grow c' c'' hs') : Grow c c'' (hs ++ hs') := by
  obtain ⟨h1, h2, l, hl, hx⟩ := h
  obtain ⟨h1', h2', l', hl', hx'⟩ := h'
  exact ⟨h1'.trans h1, h2'.trans h2, l ++ l', by rw [hl', hl, List.append_assoc],
    by rw [hooksOf_append, hx, hx']⟩

theorem Grow.trans_nil {c c' c'' : Ctx} {hs : List (Nat × String × List String)}
    (h : Grow c c' hs) (h' : Grow c' c'' []) : Grow c c'' hs := by
  simpa using h.trans h'

theorem Grow.start {s : Core} {ctl : Control} {c' : Ctx} {hs : List (Nat × String × List String)}
    (h : Grow { s := s, ctl := ctl } c' hs) : hooksOf c'.effs = hs := by
  obtain ⟨_, _, l, hl, hx⟩ := h
  rw [hl]
  simpa using hx

end HookInv

end Fundraising
