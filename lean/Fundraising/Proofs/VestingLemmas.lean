import Fundraising.Model.Block
import Fundraising.Proofs.DecLemmas
/-
  C09 (vesting split) and C13 (extension rule): the arithmetic of `validSchedules`,
  `splitLoop` and `shouldExtend`.
-/
namespace Fundraising

/-- what `ValidateVestingSchedules` guarantees about a non-empty schedule: positive
    18-decimal weights summing to exactly one -/
structure ValidWeights (vs : List VS) : Prop where
  nonempty : vs ≠ []
  pos : ∀ s ∈ vs, 0 < s.weight
  total : (vs.map (·.weight)).sum = PREC

/-! ### `validSchedules` -/

theorem validSchedulesLoop_cons (endTime : Int) (s : VS) (rest : List VS) (prev : Int) (tot r : Dec) :
    validSchedulesLoop endTime (s :: rest) prev tot = some r ↔
      0 < s.weight ∧ endTime < s.release ∧ prev < s.release ∧ s.weight ≤ Dec.one ∧
        validSchedulesLoop endTime rest s.release (tot + s.weight) = some r := by
  simp only [validSchedulesLoop, Option.ite_none_left_eq_some, Bool.not_eq_true', decide_eq_false_iff_not,
    gt_iff_lt, Int.not_lt, Int.not_le]

theorem validSchedulesLoop_spec (endTime : Int) :
    ∀ (vs : List VS) (prev : Int) (tot r : Dec), validSchedulesLoop endTime vs prev tot = some r →
      (∀ s ∈ vs, 0 < s.weight) ∧ r = tot + (vs.map (·.weight)).sum ∧
      (∀ s ∈ vs, endTime < s.release) ∧ (∀ s ∈ vs, prev < s.release) ∧
      (vs.map (·.release)).Pairwise (· < ·)
  | [], prev, tot, r, h => by
    cases h
    exact ⟨List.forall_mem_nil _, (Int.add_zero _).symm, List.forall_mem_nil _, List.forall_mem_nil _,
      .nil⟩
  | s :: rest, prev, tot, r, h => by
    obtain ⟨h1, h2, h3, -, h⟩ := (validSchedulesLoop_cons endTime s rest prev tot r).1 h
    obtain ⟨a, b, c, d, e⟩ := validSchedulesLoop_spec endTime rest _ _ _ h
    refine ⟨List.forall_mem_cons.2 ⟨h1, a⟩, ?_, List.forall_mem_cons.2 ⟨h2, c⟩,
      List.forall_mem_cons.2 ⟨h3, fun x hx => Int.lt_trans h3 (d x hx)⟩, ?_⟩
    · rw [b, List.map_cons, List.sum_cons, Int.add_assoc]
    · rw [List.map_cons, List.pairwise_cons]
      refine ⟨fun y hy => ?_, e⟩
      obtain ⟨x, hx, rfl⟩ := List.mem_map.mp hy
      exact d x hx

theorem validSchedules_spec (vs : List VS) (endTime : Int) (hne : vs ≠ [])
    (h : validSchedules vs endTime = true) :
    ValidWeights vs ∧ (∀ s ∈ vs, endTime < s.release) ∧
    (vs.map (·.release)).Pairwise (· < ·) := by
  unfold validSchedules at h
  rw [List.isEmpty_eq_false_iff.mpr hne] at h
  simp only [Bool.false_eq_true, if_false] at h
  split at h
  · rename_i tot htot
    obtain ⟨a, b, c, _, e⟩ := validSchedulesLoop_spec endTime vs TIME_ZERO 0 tot htot
    have ht : tot = Dec.one := by simpa using h
    refine ⟨⟨hne, a, ?_⟩, c, e⟩
    rw [ht, Int.zero_add] at b
    exact b.symm
  · contradiction

theorem validSchedules_sorted (vs : List VS) (endTime : Int) (h : validSchedules vs endTime = true) :
    (vs.map (·.release)).Pairwise (· < ·) := by
  by_cases hne : vs = []
  · simp [hne]
  · exact (validSchedules_spec vs endTime hne h).2.2

/-! ### `splitLoop` -/

theorem splitLoop_release (R : Int) : ∀ (vs : List VS) (rem : Int) (parts : List (Int × Int)),
    splitLoop R vs rem = some parts → parts.map (·.1) = vs.map (·.release)
  | [], _, parts, h => by
    simp [splitLoop] at h; subst h; rfl
  | [s], rem, parts, h => by
    simp only [splitLoop] at h
    split at h
    · cases h
    · cases h; rfl
  | s :: s' :: rest, rem, parts, h => by
    simp only [splitLoop] at h
    split at h
    · cases h
    · split at h
      · cases h
      · simp only [Option.map_eq_some_iff] at h
        obtain ⟨ps, hps, rfl⟩ := h
        have ih := splitLoop_release R (s' :: rest) _ ps hps
        simp only [List.map_cons] at ih ⊢
        rw [ih]

/-- what the instalments before the last take out of proceeds `R`: each its weight share
    rounded down (the last instalment is the remainder and takes no share of its own) -/
def floorSum (R : Int) : List VS → Int
  | [] => 0
  | [_] => 0
  | s :: s' :: rest => R * s.weight / PREC + floorSum R (s' :: rest)

theorem floorSum_nonneg (R : Int) (hR : 0 ≤ R) :
    ∀ vs : List VS, (∀ s ∈ vs, (0 : Int) ≤ s.weight) → 0 ≤ floorSum R vs := by
  intro vs
  induction vs with
  | nil => intro _; simp [floorSum]
  | cons s rest ih =>
    intro hw
    cases rest with
    | nil => simp [floorSum]
    | cons s' rest =>
      have ih' := ih (fun x hx => hw x (List.mem_cons_of_mem _ hx))
      have h0 : (0 : Int) ≤ s.weight := hw s (by simp)
      have := Int.ediv_nonneg (Int.mul_nonneg hR h0) (show (0 : Int) ≤ PREC by decide)
      simp only [floorSum]
      omega

theorem floorSum_mul_le (R : Int) (hR : 0 ≤ R) :
    ∀ vs : List VS, (∀ s ∈ vs, 0 ≤ s.weight) →
      floorSum R vs * PREC ≤ R * (vs.map (·.weight)).sum := by
  intro vs
  induction vs with
  | nil => intro _; simp [floorSum]
  | cons s rest ih =>
    intro hw
    cases rest with
    | nil =>
      simp only [floorSum, List.map_cons, List.map_nil, List.sum_cons, List.sum_nil, Int.zero_mul]
      have h0 : (0:Int) ≤ s.weight := hw s (by simp)
      exact Int.mul_nonneg hR (by omega)
    | cons s' rest =>
      have ih' := ih (fun x hx => hw x (List.mem_cons_of_mem _ hx))
      simp only [floorSum, List.map_cons, List.sum_cons] at ih' ⊢
      rw [Int.add_mul, Int.mul_add]
      have := Int.ediv_mul_le (R * s.weight) (b := PREC) (by decide)
      omega

/-- `splitLoop` from any remainder `rem` that covers the rounded-down shares still to come:
    no instalment is negative, they add up to `rem`, every one but the last is its share
    rounded down.  (`splitLoop_spec` is `rem = R` with weights summing to one.) -/
theorem splitLoop_aux (R : Int) (hR : 0 ≤ R) :
    ∀ (rest : List VS) (s : VS) (rem : Int), (∀ x ∈ s :: rest, 0 ≤ x.weight) →
      floorSum R (s :: rest) ≤ rem →
      ∃ parts, splitLoop R (s :: rest) rem = some parts ∧
        (parts.map (·.2)).sum = rem ∧
        (∀ p ∈ parts, 0 ≤ p.2) ∧
        (∀ i, i + 1 < (s :: rest).length →
          (parts.map (·.2))[i]? = some (R * ((s :: rest).map (·.weight)).getD i 0 / PREC)) := by
  intro rest
  induction rest with
  | nil =>
    intro s rem hw hrem
    simp only [floorSum] at hrem
    refine ⟨[(s.release, rem)], ?_, ?_, ?_, ?_⟩
    · simp only [splitLoop]; rw [if_neg (Int.not_lt.2 hrem)]
    · exact Int.add_zero rem
    · intro p hp; rw [List.mem_singleton.1 hp]; exact hrem
    · intro i hi; exact absurd (Nat.lt_of_succ_lt_succ hi) (Nat.not_lt_zero i)
  | cons s' rest ih =>
    intro s rem hw hrem
    simp only [floorSum] at hrem
    have hs : (0:Int) ≤ s.weight := hw s (by simp)
    have hamt : Dec.truncInt (Dec.mulTrunc (Dec.ofInt R) s.weight) = R * s.weight / PREC :=
      Dec.truncInt_mulTrunc_ofInt R s.weight hR hs
    have hnn : 0 ≤ R * s.weight / PREC := Int.ediv_nonneg (Int.mul_nonneg hR hs) (by decide)
    have hw' : ∀ x ∈ s' :: rest, (0 : Int) ≤ x.weight := fun x hx => hw x (List.mem_cons_of_mem _ hx)
    have hfs := floorSum_nonneg R hR (s' :: rest) hw'
    obtain ⟨X, hX⟩ : ∃ X, X = R * s.weight / PREC := ⟨_, rfl⟩
    rw [← hX] at hrem hamt hnn
    obtain ⟨parts, h1, h3, h4, h5⟩ := ih s' (rem - X) hw' (by omega)
    refine ⟨(s.release, X) :: parts, ?_, ?_, ?_, ?_⟩
    · simp only [splitLoop]
      rw [hamt, if_neg (Int.not_lt.mpr hnn), if_neg (by omega), h1]; rfl
    · rw [List.map_cons, List.sum_cons, h3]; omega
    · exact List.forall_mem_cons.2 ⟨hnn, h4⟩
    · intro i hi
      cases i with
      | zero => exact congrArg some hX
      | succ i => exact h5 i (Nat.lt_of_succ_lt_succ hi)

/-- the instalments of `ApplyVestingSchedules`, for ANY number of instalments and any
    non-negative proceeds (including 0 and amounts smaller than the number of instalments) -/
theorem splitLoop_spec (R : Int) (vs : List VS) (hR : 0 ≤ R) (hv : ValidWeights vs) :
    ∃ parts, splitLoop R vs R = some parts ∧
      parts.map (·.1) = vs.map (·.release) ∧
      (parts.map (·.2)).sum = R ∧
      (∀ p ∈ parts, 0 ≤ p.2) ∧
      (∀ i, i + 1 < vs.length → (parts.map (·.2))[i]? = some (R * (vs.map (·.weight)).getD i 0 / PREC)) := by
  obtain ⟨hne, hpos, htot⟩ := hv
  cases vs with
  | nil => exact absurd rfl hne
  | cons s rest =>
    have hw : ∀ x ∈ s :: rest, (0 : Int) ≤ x.weight := fun x hx => Int.le_of_lt (hpos x hx)
    have h1 := floorSum_mul_le R hR (s :: rest) hw
    rw [htot] at h1
    obtain ⟨parts, hp, h⟩ := splitLoop_aux R hR rest s R hw (Int.le_of_mul_le_mul_right h1 (by decide))
    exact ⟨parts, hp, splitLoop_release R _ _ _ hp, h⟩

/-! ### the extension rule `1 − Quo(curr, last) ≥ rate` -/

/-- `LegacyNewDec(curr).Quo(LegacyNewDec(last))` is within half a unit of the last decimal,
    plus the truncation of the big-integer quotient, of the exact ratio -/
theorem quo_ofInt_close_strong (curr last : Int) (hc : 0 ≤ curr) (hl : 0 < last) :
    Dec.quo (Dec.ofInt curr) (Dec.ofInt last) * last * PREC ≤ curr * PREC * PREC + HALF * last ∧
    curr * PREC * PREC <
      Dec.quo (Dec.ofInt curr) (Dec.ofInt last) * last * PREC + (HALF + 1) * last := by
  -- with `t = ⌊curr·10^36 / last⌋` and `q` its rounding: `t·last` is within `last` of `curr·10^36`
  -- (`d1`, `d2`), `q·10^18` within half a unit of `t`; multiply the second by `last` and add
  obtain ⟨hq, ht⟩ := quo_ofInt_eq curr last hc hl
  rw [hq]
  have d1 : curr * (PREC * PREC) / last * last ≤ curr * (PREC * PREC) :=
    Int.ediv_mul_le _ (Int.ne_of_gt hl)
  have d2 : curr * (PREC * PREC) < (curr * (PREC * PREC) / last + 1) * last :=
    Int.lt_ediv_add_one_mul_self _ hl
  generalize curr * (PREC * PREC) / last = t at *
  obtain ⟨c1, c2⟩ := chopRoundNonneg_close t ht
  have m1 := Int.mul_le_mul_of_nonneg_right c1 (Int.le_of_lt hl)
  have m2 := Int.mul_le_mul_of_nonneg_right c2 (Int.le_of_lt hl)
  rw [Int.add_mul] at m1 m2 d2
  rw [Int.mul_right_comm] at m1 m2
  generalize Dec.chopRoundNonneg t = q at *
  unfold Dec PREC HALF at *
  omega

/-- `LegacyNewDec(curr).Quo(LegacyNewDec(last))` is within 10^-18 of the exact ratio -/
theorem quo_ofInt_close (curr last : Int) (hc : 0 ≤ curr) (hl : 0 < last) :
    let q := Dec.quo (Dec.ofInt curr) (Dec.ofInt last)
    q * last ≤ curr * PREC + last ∧ curr * PREC ≤ q * last + last := by
  intro q
  obtain ⟨h1, h2⟩ := quo_ofInt_close_strong curr last hc hl
  generalize q * last = a at *
  unfold Dec PREC HALF at *
  omega

theorem shouldExtend_iff (curr last : Int) (rate : Dec) :
    shouldExtend curr last rate = true ↔
      rate ≤ PREC - Dec.quo (Dec.ofInt curr) (Dec.ofInt last) := by
  unfold shouldExtend Dec.sub Dec.one
  rw [decide_eq_true_eq]

end Fundraising
