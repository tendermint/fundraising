import Fundraising.Proofs.Reach
import Fundraising.Proofs.WFViews
/-
  The well-formedness invariant `WF` (and `BankNonneg`) holds in every reachable state: what a
  write does to `WF` of the core, every handler (its record is well formed by
  Proofs/WFViews.lean), and the step function.
-/
namespace Fundraising

theorem WF.of_eqs {s s' : Core} (h : WF s) (hp : s'.params = s.params) (hv : s'.views = s.views)
    (he : s'.enableAdd = s.enableAdd) : WF s' :=
  ⟨by rw [hp]; exact h.params, by rw [hv]; exact h.views, by rw [he]; exact h.switchOff⟩

namespace WFInv

/-- `s'` differs from `s` at most in the bank; with `WF.frame_back` (well-formedness does not read
    the bank) stated for its own sake: no other theorem uses either -/
structure Frame (s s' : Core) : Prop where
  params : s'.params = s.params
  views : s'.views = s.views
  enableAdd : s'.enableAdd = s.enableAdd
  now : s'.now = s.now

theorem WF.frame_back {s s' : Core} (f : Frame s s') (h : WF s') : WF s :=
  h.of_eqs f.params.symm f.views.symm f.enableAdd.symm

theorem WF.setView {s : Core} (h : WF s) (aid : Nat) (v' : AView) (hv : ViewWF aid v') :
    WF { s with views := s.views.set aid v' } := by
  refine ⟨h.params, ?_, h.switchOff⟩
  intro i v hi
  simp only [List.getElem?_set] at hi
  by_cases e : aid = i
  · subst e
    by_cases hl : aid < s.views.length
    · simp [hl] at hi; subst hi; exact hv
    · simp [hl] at hi
  · simp only [e, if_false] at hi
    exact h.views i v hi

theorem WF.append {s : Core} (h : WF s) (v' : AView) (hv : ViewWF s.views.length v') :
    WF { s with views := s.views ++ [v'] } := by
  refine ⟨h.params, ?_, h.switchOff⟩
  intro i v hi
  rcases Nat.lt_or_ge i s.views.length with hl | hl
  · rw [List.getElem?_append_left hl] at hi
    exact h.views i v hi
  · rw [List.getElem?_append_right hl, List.getElem?_singleton] at hi
    split at hi
    · obtain rfl : i = s.views.length := by omega
      cases hi
      exact hv
    · cases hi

theorem validCoins_nonneg : ∀ {l : List Coin}, validCoins l = true → ∀ x ∈ l, 0 ≤ x.amt
  | [], _, x, hx => by cases hx
  | [c], h, x, hx => by
    simp [validCoins] at h
    simp at hx; subst hx; omega
  | c :: c' :: rest, h, x, hx => by
    simp only [validCoins, Bool.and_eq_true, decide_eq_true_eq] at h
    rcases List.mem_cons.mp hx with rfl | hx
    · omega
    · exact validCoins_nonneg h.2 x hx

theorem _root_.Fundraising.Ran.wf {c c' : Ctx} {E : List Eff} {aid : Nat} {w : AView} (h : Ran c c' E)
    (hvs : c'.s.views = c.s.views.set aid w) (hw : WF c.s) (hv : ViewWF aid w) : WF c'.s :=
  (WF.setView hw aid w hv).of_eqs h.params hvs h.enableAdd

theorem BankNonneg.of_bank_eq {s s' : Core} (h : s'.bank = s.bank) (hn : BankNonneg s) : BankNonneg s' := by
  unfold BankNonneg; rw [h]; exact hn

theorem placeBid_wf {c c' : Ctx} {bidder : Acc} {aid : Nat} {t : BidType} {price : Dec}
    {denom : Denom} {amt : Int}
    (h : placeBid c bidder aid t price denom amt = .ok c')
    (hacc : validAcc bidder = true) (hprice : 0 < price) (hamt : 0 < amt) (hw : WF c.s) :
    WF c'.s ∧ (BankNonneg c.s → BankNonneg c'.s) := by
  obtain ⟨v, ab, hv, hst, hmin, hab, hok, hP, -, b, hp, rfl⟩ := placeBid_iff.mp h
  have V := hw.views aid v hv
  refine ⟨(hp.wrote ..).wf rfl hw ?_, fun hn => sendAll_nonneg ?_ hn hp.funds⟩
  · have hB : BidWF v.a v.allowed (v.newBid aid bidder t price denom amt) ∧
        ((v.newBid aid bidder t price denom amt).type = .fixed →
          (v.newBid aid bidder t price denom amt).toSelling v.a.payDenom ≤ v.a.remaining) := by
      have base : ∀ t', (v.a.type = .fixed → t' = .fixed ∧ price = v.a.startPrice ∧
            (denom = v.a.payDenom ∨ denom = v.a.sellDenom)) →
          (v.a.type = .batch → (t' = .worth ∧ denom = v.a.payDenom) ∨ (t' = .many ∧ denom = v.a.sellDenom)) →
          BidWF v.a v.allowed (v.newBid aid bidder t' price denom amt) := fun t' hf hb =>
        ⟨V.id.symm, hacc, hprice, hamt, (congrArg Option.isSome hab : _), hf, hb, hmin⟩
      cases t <;> obtain ⟨ht, hd, hrest⟩ := hok
      · exact ⟨base _ (fun _ => ⟨rfl, hrest.1, hd⟩) (fun hb => by rw [ht] at hb; cases hb), fun _ => hrest.2.1⟩
      · exact ⟨base _ (fun hf => by rw [ht] at hf; cases hf) (fun _ => .inl ⟨rfl, hd⟩), fun hf => by cases hf⟩
      · exact ⟨base _ (fun hf => by rw [ht] at hf; cases hf) (fun _ => .inr ⟨rfl, hd⟩), fun hf => by cases hf⟩
    exact V.placed hst hB.1 rfl rfl hB.2
  · simp only [placeXfers, List.forall_mem_cons, List.not_mem_nil, false_imp_iff, implies_true, and_true]
    exact ⟨validCoins_nonneg hw.params.2, coinsOf_nonneg hP⟩

theorem modifyBid_wf {c c' : Ctx} {bidder : Acc} {aid bidId : Nat} {price : Dec}
    {denom : Denom} {amt : Int}
    (h : modifyBid c bidder aid bidId price denom amt = .ok c')
    (hprice : 0 < price) (hamt : 0 < amt) (hw : WF c.s) :
    WF c'.s ∧ (BankNonneg c.s → BankNonneg c'.s) := by
  obtain ⟨v, bid, hv, -, hty, hfind, -, hmin, -, -, -, -, -, b, hp, rfl⟩ := modifyBid_iff.mp h
  have hid : bid.id = bidId := by simpa using List.find?_some hfind
  refine ⟨(hp.wrote ..).wf rfl hw ((hw.views aid v hv).modified (List.mem_of_find?_eq_some hfind) hid hty
    hprice hamt hmin), fun hn => sendAll_nonneg ?_ hn hp.funds⟩
  unfold modifyXfers
  split
  · rename_i hpos
    simpa using Int.le_of_lt hpos
  · simp

theorem addAllowedBidders_wf {c c' : Ctx} {aid : Nat} {abs : List AllowedArg}
    (h : addAllowedBidders c aid abs = .ok c') (hw : WF c.s) :
    WF c'.s ∧ (BankNonneg c.s → BankNonneg c'.s) := by
  obtain ⟨-, v, hv, -, hok, rfl⟩ := addAllowedBidders_iff.mp h
  have V := hw.views aid v hv
  obtain ⟨hs, hc⟩ := setAllowed_foldl_wf (fun ab hab => ⟨(hok ab hab).1, (hok ab hab).2.1⟩) V.allowedSorted V.caps
  exact ⟨WF.setView hw aid _ (V.setAllowedList hs hc fun _ => setAllowed_foldl_keys), id⟩

theorem updateAllowedBidder_wf {c c' : Ctx} {aid : Nat} {bidder : Acc} {cap : Int}
    (h : updateAllowedBidder c aid bidder cap = .ok c') (hw : WF c.s) :
    WF c'.s ∧ (BankNonneg c.s → BankNonneg c'.s) := by
  obtain ⟨v, hv, hc1, hcap, -, rfl⟩ := updateAllowedBidder_iff.mp h
  have V := hw.views aid v hv
  obtain ⟨w, hwm, hwb⟩ := lookupAllowed_isSome_iff.mp hc1
  have hva : validAcc bidder = true := hwb ▸ (V.caps w hwm).1
  exact ⟨WF.setView hw aid _ (V.setAllowedList (setAllowed_sorted V.allowedSorted)
    (setAllowed_caps V.caps ⟨hva, hcap⟩) fun _ => setAllowed_keys), id⟩

theorem cancelAuction_wf {c c' : Ctx} {signer : Acc} {aid : Nat}
    (h : cancelAuction c signer aid = .ok c') (hw : WF c.s) :
    WF c'.s ∧ (BankNonneg c.s → BankNonneg c'.s) := by
  obtain ⟨v, hv, -, hst, hnn, -, b, hp, rfl⟩ := cancelAuction_iff.mp h
  exact ⟨(hp.wrote ..).wf rfl hw ((hw.views aid v hv).cancelled hst),
    fun hn => sendAll_nonneg (by simpa [cancelXfer] using coinsOf_nonneg hnn) hn hp.funds⟩

theorem createAuction_wf {c c' : Ctx} {m : CreateMsg}
    (h : createAuction c m = .ok c') (hvb : validateBasic (.create m) = true) (hw : WF c.s) :
    WF c'.s ∧ (BankNonneg c.s → BankNonneg c'.s) := by
  obtain ⟨-, hc2, hc3, h0, -, -, b, hp, rfl⟩ := createAuction_iff.mp h
  exact ⟨WF.append (s := { c.s with bank := b }) (hw.of_eqs rfl rfl rfl) _
      (ViewWF.created hvb hc2 hc3 _ _), fun hn =>
    sendAll_nonneg (by
      simp only [createXfers, List.forall_mem_cons, List.not_mem_nil, false_imp_iff, implies_true, and_true]
      exact ⟨validCoins_nonneg hw.params.1, coinsOf_nonneg h0⟩) hn hp.funds⟩

theorem wf_of_settlement {c c' : Ctx} {aid : Nat} {v w : AView} {mp : Dec}
    {mi : MInfo} {S R : Int} (st : Settlement c c' aid v mp mi S R w)
    (hw : WF c.s) (V : ViewWF aid v) (hst : v.a.status = .started) :
    WF c'.s ∧ (BankNonneg c.s → BankNonneg c'.s) :=
  ⟨st.ran.wf st.views hw ((V.priced mp).settled st.view hst st.proceedsNonneg),
   st.nonneg⟩

theorem releaseVesting_wf {c c' : Ctx} {aid : Nat} {v : AView}
    (h : releaseVesting c aid = .ok c') (hw : WF c.s)
    (hv : c.s.views[aid]? = some v) (hst : v.a.status = .vesting) :
    WF c'.s ∧ (BankNonneg c.s → BankNonneg c'.s) := by
  have V := hw.views aid v hv
  obtain ⟨h0, _, r, hviews⟩ := releaseVesting_ok h hv
  exact ⟨r.wf (hviews (vqs_sorted aid v V)) hw (V.released hst _),
    r.nonneg (by rw [xfersOf_map_xfer]; exact relXfers_nonneg h0)⟩

theorem closeFixed_wf {c c' : Ctx} {aid : Nat} {v : AView}
    (h : closeFixed c aid = .ok c') (hw : WF c.s)
    (hv : c.s.views[aid]? = some v) (hst : v.a.status = .started) :
    WF c'.s ∧ (BankNonneg c.s → BankNonneg c'.s) :=
  let ⟨_, _, _, st⟩ := closeFixed_ok h hv
  wf_of_settlement st hw (hw.views aid v hv) hst

theorem closeBatch_wf {c c' : Ctx} {aid : Nat} {v : AView}
    (h : closeBatch c aid = .ok c') (hw : WF c.s)
    (hv : c.s.views[aid]? = some v) (hst : v.a.status = .started) (ht : v.a.type = .batch) :
    WF c'.s ∧ (BankNonneg c.s → BankNonneg c'.s) := by
  obtain ⟨mi, hcb, hext, hset⟩ := closeBatch_ok h hv
  have V := (hw.views aid v hv).markBids ht hcb
  by_cases hd : extDecision v mi
  · rw [hext hd]
    exact ⟨WF.setView hw aid _ (V.extended hd.1 _), id⟩
  · obtain ⟨S, R, w, st⟩ := hset hd
    exact wf_of_settlement st hw V hst

theorem blockStep_wf {c c' : Ctx} {aid : Nat} (h : blockStep c aid = .ok c') (hw : WF c.s) :
    WF c'.s ∧ (BankNonneg c.s → BankNonneg c'.s) := by
  obtain ⟨v, hv⟩ := blockStep_view h
  have V := hw.views aid v hv
  rcases (blockStep_iff hv).mp h with ⟨rfl, _⟩ | ⟨hs, _, rfl⟩ | ⟨hs, _, _, ⟨_, hc⟩ | ⟨ht, hc⟩⟩ | ⟨hs, hr⟩
  · exact ⟨hw, id⟩
  · exact ⟨WF.setView hw aid _ (V.opened hs), id⟩
  · exact closeFixed_wf hc hw hv hs
  · exact closeBatch_wf hc hw hv hs ht
  · exact releaseVesting_wf hr hw hv hs

theorem beginBlock_wf {c c' : Ctx} {t : Int} (h : beginBlock c t = .ok c') (hw : WF c.s) :
    WF c'.s ∧ (BankNonneg c.s → BankNonneg c'.s) :=
  blockLoop_induct (Q := fun c c' => WF c.s → WF c'.s ∧ (BankNonneg c.s → BankNonneg c'.s))
    (c := { c with s := { c.s with now := t } }) (fun _ hw => ⟨hw, id⟩)
    (fun h₁ q hw => let ⟨w₁, n₁⟩ := blockStep_wf h₁ hw; let ⟨w₂, n₂⟩ := q w₁; ⟨w₂, n₂ ∘ n₁⟩)
    h (hw.of_eqs rfl rfl rfl)

end WFInv

theorem wf_init : WF ({} : Core) := by
  refine ⟨⟨by decide, by decide⟩, ?_, rfl⟩
  intro i v h
  simp at h

theorem bankNonneg_init : BankNonneg ({} : Core) := by
  intro a d
  exact Int.le_refl 0

theorem handle_wf {c c' : Ctx} {m : Msg} (h : handle c m = .ok c')
    (hvb : validateBasic m = true) (hw : WF c.s) :
    WF c'.s ∧ (BankNonneg c.s → BankNonneg c'.s) := by
  refine handle_cases (P := fun m c' => validateBasic m = true → WF c'.s ∧ (BankNonneg c.s → BankNonneg c'.s))
    h (fun _ h hvb => WFInv.createAuction_wf h hvb hw) (fun _ _ h _ => WFInv.cancelAuction_wf h hw)
    (fun _ _ _ _ _ _ h hvb => ?_) (fun _ _ _ _ _ _ h hvb => ?_)
    (fun _ _ _ h _ => WFInv.addAllowedBidders_wf h hw)
    (fun _ _ _ h1 h2 _ => ⟨⟨⟨h1, h2⟩, hw.views, hw.switchOff⟩, id⟩) hvb
  · simp only [validateBasic, Bool.and_eq_true, decide_eq_true_eq] at hvb
    exact WFInv.placeBid_wf h hvb.1.1.1.1 hvb.1.1.1.2 hvb.1.2 hw
  · simp only [validateBasic, Bool.and_eq_true, decide_eq_true_eq] at hvb
    exact WFInv.modifyBid_wf h hvb.1.1.2 hvb.2 hw

theorem deliver_wf {c c' : Ctx} {m : Msg} (h : deliver c m = .ok c') (hw : WF c.s) :
    WF c'.s ∧ (BankNonneg c.s → BankNonneg c'.s) :=
  handle_wf (deliver_iff.mp h).2 (deliver_iff.mp h).1 hw

theorem runAtomic_wf_nonneg (st : State) (recover : Bool) (f : Ctx → M Ctx) (hw : WF st.core)
    (hf : ∀ c', f { s := st.core, ctl := st.ctl } = .ok c' →
      WF c'.s ∧ (BankNonneg st.core → BankNonneg c'.s)) :
    WF (runAtomic st recover f).2.core ∧
      (BankNonneg st.core → BankNonneg (runAtomic st recover f).2.core) :=
  runAtomic_keeps (fun s => WF s ∧ (BankNonneg st.core → BankNonneg s)) st recover f hf ⟨hw, id⟩

theorem step_wf_nonneg (st : State) (op : Op) (hw : WF st.core) :
    WF (step st op).2.core ∧ (BankNonneg st.core → BankNonneg (step st op).2.core) := by
  cases op with
  | reset => exact ⟨wf_init, fun _ => bankNonneg_init⟩
  | fund u d amt =>
    refine ⟨hw.of_eqs rfl rfl rfl, ?_⟩
    intro hn a d'
    show 0 ≤ st.core.bank a d' + (if a = .user u ∧ d' = d ∧ 0 < amt then amt else 0)
    have := hn a d'
    split
    · rename_i h; have := h.2.2; omega
    · omega
  | gift src dst d amt =>
    rcases step_gift st src dst d amt with e | ⟨hpos, hle, -, e⟩ <;> rw [e]
    · exact ⟨hw, id⟩
    · exact ⟨hw.of_eqs rfl rfl rfl, fun hn => move_nonneg hn (Int.le_of_lt hpos) hle⟩
  | msg m => exact runAtomic_wf_nonneg st true _ hw (fun c' h => deliver_wf h hw)
  | kadd aid abs => exact runAtomic_wf_nonneg st true _ hw (fun c' h => WFInv.addAllowedBidders_wf h hw)
  | kupd aid u cap => exact runAtomic_wf_nonneg st true _ hw (fun c' h => WFInv.updateAllowedBidder_wf h hw)
  | block t =>
    have hw' : WF ({ st with core := { st.core with now := t } } : State).core :=
      (hw.of_eqs rfl rfl rfl)
    exact runAtomic_wf_nonneg { st with core := { st.core with now := t } } false
      (fun c => beginBlock c t) hw' (fun c' h => WFInv.beginBlock_wf h hw')
  | genesis => rw [step_genesis st hw]; exact ⟨hw, id⟩
  | listeners n => exact ⟨hw, id⟩
  | failhook name idx => exact ⟨hw, id⟩
  | fault k => exact ⟨hw, id⟩
  | query q => exact ⟨hw, id⟩

theorem wf_step (st : State) (op : Op) (h : WF st.core) : WF (step st op).2.core :=
  (step_wf_nonneg st op h).1

/-- `hw`: the fee coins of `Params` must be valid, which `WF` records -/
theorem bankNonneg_step (st : State) (op : Op) (h : BankNonneg st.core) (hw : WF st.core) :
    BankNonneg (step st op).2.core :=
  (step_wf_nonneg st op hw).2 h

theorem wf_reach (st : State) (h : Reach st) : WF st.core :=
  reach_induction (P := fun st => WF st.core) wf_init (fun st op _ ih => wf_step st op ih) st h

theorem bankNonneg_reach (st : State) (h : Reach st) : BankNonneg st.core :=
  (reach_induction (P := fun st => WF st.core ∧ BankNonneg st.core) ⟨wf_init, bankNonneg_init⟩
    (fun st op _ ih => ⟨wf_step st op ih.1, bankNonneg_step st op ih.2 ih.1⟩) st h).2

end Fundraising
