import Fundraising.Proofs.OpsMsgs
import Fundraising.Proofs.OpsBlock
/-
  C02 — operations are zero-sum; the only debits of user accounts are the advertised fee and
  the reservation.  `Led c c' xs`: from `c` to `c'` exactly the transfers `xs` were logged
  (plus hook entries) and every balance moved by their net.  It is what a run (`Ran`,
  Proofs/Exec.lean) says of the ledger, and it composes; unlike `Ran` it also holds across a
  change of the parameters or of the block time, so every module operation has one.  The
  ledger of the message handlers (read off Proofs/OpsMsgs.lean) and of `BeginBlocker` (off its
  footprint, Proofs/OpsBlock.lean), and what follows for `step`.
-/
namespace Fundraising.LedgerInv

/-! ### the relation

`Led` is written with `xfers` (the transfers of a log), `amtOf`/`tdelta` (the amount of a
denomination in a transfer's coins; the net change the transfer causes to an account) and `net`
(that of a list of transfers).  They unfold to the same terms as `xfersOf`, `Transfer.delta` and
`netFlow` of Proofs/Exec.lean (`delta_eq`, `net_eq`, by `rfl`), in which the lemmas below and the
statements of Props/C02.lean are written.  `xfers_nil`, `xfers_xfer`, `net_nil`, `amtOf_nil` are
their values on the empty and the one-entry argument; no other theorem uses these four. -/

def xfers (effs : List Eff) : List Transfer :=
  effs.filterMap (fun e => match e with | .xfer t => some t | .hook .. => none)

theorem xfers_nil : xfers [] = [] := rfl

theorem xfers_xfer (t : Transfer) : xfers [.xfer t] = [t] := rfl

def amtOf (coins : List Coin) (d : Denom) : Int := ((coins.filter (·.denom == d)).map (·.amt)).sum

def tdelta (t : Transfer) (a : Addr) (d : Denom) : Int :=
  (if a = t.dst then amtOf t.coins d else 0) - (if a = t.src then amtOf t.coins d else 0)

def net (xs : List Transfer) (a : Addr) (d : Denom) : Int := (xs.map (fun t => tdelta t a d)).sum

theorem net_nil (a : Addr) (d : Denom) : net [] a d = 0 := rfl

theorem amtOf_nil (d : Denom) : amtOf [] d = 0 := rfl

theorem delta_eq (t : Transfer) (a : Addr) (d : Denom) : t.delta a d = tdelta t a d := rfl

theorem net_eq (xs : List Transfer) (a : Addr) (d : Denom) : (xs.map (·.delta a d)).sum = net xs a d := rfl

/-- from `c` to `c'` the log grew by hook entries and exactly the transfers `xs`, and every
    balance changed by the net of `xs` -/
def Led (c c' : Ctx) (xs : List Transfer) : Prop :=
  (∃ l, c'.effs = c.effs ++ l ∧ xfers l = xs) ∧
  ∀ a d, c'.s.bank a d = c.s.bank a d + net xs a d

theorem _root_.Fundraising.Ran.led {c c' : Ctx} {E : List Eff} (h : Ran c c' E) : Led c c' (xfersOf E) :=
  ⟨⟨E, h.effs, rfl⟩, h.apply⟩

theorem Led.of_eqs {c c' : Ctx} (he : c'.effs = c.effs) (hb : c'.s.bank = c.s.bank) : Led c c' [] :=
  ⟨⟨[], by rw [he, List.append_nil], rfl⟩, fun a d => by rw [hb]; exact (Int.add_zero _).symm⟩

theorem Led.trans {c c' c'' : Ctx} {xs ys : List Transfer} (h : Led c c' xs) (h' : Led c' c'' ys) :
    Led c c'' (xs ++ ys) := by
  obtain ⟨⟨l, hl, rfl⟩, hb⟩ := h
  obtain ⟨⟨l', hl', rfl⟩, hb'⟩ := h'
  refine ⟨⟨l ++ l', by rw [hl', hl, List.append_assoc], xfersOf_append l l'⟩, fun a d => ?_⟩
  rw [hb' a d, hb a d, Int.add_assoc]
  exact congrArg _ (netFlow_append _ _ a d).symm

/-- a stretch that logs no transfer, in front; no other theorem uses it -/
theorem Led.nil_trans {c c' c'' : Ctx} {xs : List Transfer} (h : Led c c' []) (h' : Led c' c'' xs) :
    Led c c'' xs := by
  simpa using h.trans h'

/-- a straight-line handler: its bank calls are its ledger -/
theorem _root_.Fundraising.Pays.led {c : Ctx} {xs : List Transfer} {b : Bank} (hp : Pays c xs b) (name : String)
    (args : List String) (aid : Nat) (v' : AView) :
    Led c (c.wrote xs b name args aid v') xs := by
  have := (hp.wrote name args aid v').led
  rwa [xfersOf_append, xfersOf_map_xfer, xfersOf_hookEffs, List.append_nil] at this

theorem led_heard (c : Ctx) (name : String) (args : List String) (aid : Nat) (v' : AView) :
    Led c ((c.heard name args).setView aid v') [] := by
  have := (Pays.nil c).led name args aid v'
  rwa [Ctx.wrote, paid_nil] at this

/-- `Led` with every logged transfer satisfying `P`, and that `P` may be weakened (`LedP.mono`);
    no other theorem uses either -/
def LedP (P : Transfer → Prop) (c c' : Ctx) : Prop := ∃ xs, Led c c' xs ∧ ∀ x ∈ xs, P x

theorem LedP.mono {P Q : Transfer → Prop} {c c' : Ctx} (hpq : ∀ x, P x → Q x) (h : LedP P c c') :
    LedP Q c c' := by
  obtain ⟨xs, hl, hp⟩ := h
  exact ⟨xs, hl, fun x hx => hpq x (hp x hx)⟩

theorem Led.start {s : Core} {ctl : Control} {c' : Ctx} {xs : List Transfer}
    (h : Led { s := s, ctl := ctl } c' xs) :
    xfersOf c'.effs = xs ∧ ∀ a d, c'.s.bank a d = s.bank a d + netFlow xs a d := by
  obtain ⟨⟨l, hl, hx⟩, hb⟩ := h
  refine ⟨?_, hb⟩
  rw [hl]
  exact hx

/-! ### the message handlers -/

theorem createAuction_led {c c' : Ctx} {m : CreateMsg} (h : createAuction c m = .ok c') :
    Led c c' (createXfers c m) := by
  obtain ⟨-, -, -, -, -, -, b, hp, rfl⟩ := createAuction_iff.mp h
  refine ⟨⟨(createXfers c m).map Eff.xfer ++ hookEffs c.ctl.listeners m.before (createHookArgs m none) ++
    hookEffs c.ctl.listeners m.after (createHookArgs m (some c.s.views.length)), ?_, ?_⟩, sendAll_apply hp.funds⟩
  · simp only [Ctx.heard, Ctx.addView, Ctx.paid, List.append_assoc]
  · show xfersOf _ = _
    rw [xfersOf_append, xfersOf_append, xfersOf_map_xfer, xfersOf_hookEffs, xfersOf_hookEffs]
    rfl

theorem cancelAuction_led {c c' : Ctx} {signer : Acc} {aid : Nat} (h : cancelAuction c signer aid = .ok c') :
    ∃ v, c.s.views[aid]? = some v ∧ v.a.auctioneer = signer ∧ Led c c' [cancelXfer c aid v] := by
  obtain ⟨v, hv, ha, -, -, -, b, hp, rfl⟩ := cancelAuction_iff.mp h
  exact ⟨v, hv, ha, hp.led _ _ _ _⟩

theorem placeBid_led {c c' : Ctx} {bidder : Acc} {aid : Nat} {t : BidType} {price : Dec} {denom : Denom}
    {amt : Int} (h : placeBid c bidder aid t price denom amt = .ok c') :
    ∃ v, c.s.views[aid]? = some v ∧
      Led c c' (placeXfers c aid v (v.newBid aid bidder t price denom amt)) := by
  obtain ⟨v, ab, hv, -, -, -, -, -, -, b, hp, rfl⟩ := placeBid_iff.mp h
  exact ⟨v, hv, hp.led _ _ _ _⟩

theorem modifyBid_led {c c' : Ctx} {bidder : Acc} {aid bidId : Nat} {price : Dec} {denom : Denom}
    {amt : Int} (h : modifyBid c bidder aid bidId price denom amt = .ok c') :
    Led c c' [] ∨ ∃ d x, 0 < x ∧ Led c c' [⟨.send, .user bidder, .pay aid, [⟨d, x⟩]⟩] := by
  obtain ⟨v, bid, -, -, -, -, -, -, -, -, -, -, -, b, hp, rfl⟩ := modifyBid_iff.mp h
  have hl := hp.led "BeforeBidModified" (bidHookArgs { bid with price := price, amt := amt }) aid
    (v.modified bidId { bid with price := price, amt := amt })
  by_cases hpos : 0 < (modifyDiff v bid price denom amt).2
  · exact Or.inr ⟨_, _, hpos, by simpa only [modifyXfers, if_pos hpos] using hl⟩
  · exact Or.inl (by simpa only [modifyXfers, if_neg hpos] using hl)

theorem addAllowedBidders_led {c c' : Ctx} {aid : Nat} {abs : List AllowedArg}
    (h : addAllowedBidders c aid abs = .ok c') : Led c c' [] := by
  obtain ⟨-, v, -, -, -, rfl⟩ := addAllowedBidders_iff.mp h
  exact led_heard ..

theorem updateAllowedBidder_led {c c' : Ctx} {aid : Nat} {bidder : Acc} {cap : Int}
    (h : updateAllowedBidder c aid bidder cap = .ok c') : Led c c' [] := by
  obtain ⟨v, -, -, -, -, rfl⟩ := updateAllowedBidder_iff.mp h
  exact led_heard ..

theorem handle_addAllowed_led {c c' : Ctx} {aid : Nat} {ab : AllowedArg}
    (h : handle c (.addAllowed aid ab) = .ok c') : Led c c' [] :=
  addAllowedBidders_led (handle_addAllowed_iff.mp h).2

theorem updateParams_led {c c' : Ctx} {signer : Acc} {p : Params}
    (h : handle c (.updateParams signer p) = .ok c') : Led c c' [] := by
  obtain ⟨-, -, -, -, rfl⟩ := handle_updateParams_iff.mp h
  exact Led.of_eqs rfl rfl

theorem deliver_led {c c' : Ctx} {m : Msg} (h : deliver c m = .ok c') : ∃ xs, Led c c' xs :=
  handle_cases (P := fun _ c' => ∃ xs, Led c c' xs) (deliver_iff.mp h).2
    (fun _ h => ⟨_, createAuction_led h⟩) (fun _ _ h => let ⟨_, _, _, h⟩ := cancelAuction_led h; ⟨_, h⟩)
    (fun _ _ _ _ _ _ h => let ⟨_, _, h⟩ := placeBid_led h; ⟨_, h⟩)
    (fun _ _ _ _ _ _ h => (modifyBid_led h).elim (fun h => ⟨_, h⟩) fun ⟨_, _, _, h⟩ => ⟨_, h⟩)
    (fun _ _ _ h => ⟨_, addAllowedBidders_led h⟩) (fun _ _ _ _ _ => ⟨_, Led.of_eqs rfl rfl⟩)

/-- every transfer of a block is one of an auction's iteration (`Own`) -/
theorem beginBlock_led {c c' : Ctx} {t : Int} (h : beginBlock c t = .ok c') :
    ∃ xs, Led c c' xs ∧ ∀ x ∈ xs, ∃ j id, Own j id x :=
  let ⟨_, E, r, hx⟩ := blockLoop_foot _ h List.nodup_range
  -- the loop runs from `c` with the block time set: `Led` looks at the log and the bank only
  have hl : Led c c' (xfersOf E) := (r.led : Led { c with s := { c.s with now := t } } c' _)
  ⟨xfersOf E, hl, fun x hx' => let ⟨j, w, _, _, ho⟩ := hx x hx'; ⟨j, w.a.id, ho⟩⟩

end Fundraising.LedgerInv

/-! ### every operation -/

namespace Fundraising

/-- the operation is one the module executes (message, keeper-API call, block) -/
def Op.isModuleOp : Op → Bool
  | .msg _ => true | .kadd .. => true | .kupd .. => true | .block _ => true | _ => false

namespace LedgerInv

/-- the outcome of an operation from bank `b`: on success every balance moved by the net of the
    logged transfers, on failure no transfer is reported and no balance changed -/
def Accounted (b : Bank) (r : Outcome × State) : Prop :=
  (r.1.res = .ok ∧ ∀ a d, r.2.core.bank a d = b a d + netFlow (xfersOf r.1.effs) a d) ∨
  (r.1.res ≠ .ok ∧ xfersOf r.1.effs = [] ∧ r.2.core.bank = b)

theorem run_led (st : State) (recover : Bool) (f : Ctx → M Ctx)
    (hf : ∀ c', f { s := st.core, ctl := st.ctl } = .ok c' →
      ∃ xs, Led { s := st.core, ctl := st.ctl } c' xs) :
    Accounted st.core.bank (runAtomic st recover f) := by
  by_cases hok : (runAtomic st recover f).1.res = .ok
  · obtain ⟨c, hc, hr⟩ := runAtomic_ok hok
    obtain ⟨xs, hl⟩ := hf c hc
    obtain ⟨hx, hb⟩ := hl.start
    refine Or.inl ⟨hok, fun a d => ?_⟩
    rw [hr]
    exact hx ▸ hb a d
  · exact Or.inr ⟨hok, (runAtomic_failed hok).2, by rw [(runAtomic_failed hok).1]⟩

theorem step_led (st : State) (op : Op) (hop : op.isModuleOp = true) :
    Accounted st.core.bank (step st op) := by
  cases op with
  | msg m => exact run_led st true (fun c => deliver c m) (fun c' h => deliver_led h)
  | kadd aid abs => exact run_led st true _ (fun c' h => ⟨_, addAllowedBidders_led h⟩)
  | kupd aid u cap => exact run_led st true _ (fun c' h => ⟨_, updateAllowedBidder_led h⟩)
  | block t =>
    exact run_led { st with core := { st.core with now := t } } false (fun c => beginBlock c t)
      (fun c' h => let ⟨xs, hl, _⟩ := beginBlock_led h; ⟨xs, hl⟩)
  | _ => cases hop

theorem delta_zero_sum (t : Transfer) (L : List Addr) (hnd : L.Nodup) (hs : t.src ∈ L) (hd : t.dst ∈ L)
    (d : Denom) : (L.map (fun a => t.delta a d)).sum = 0 := by
  unfold Transfer.delta
  rw [isum_map_sub, isum_indicator L t.dst _ hnd hd, isum_indicator L t.src _ hnd hs]; omega

theorem run_no_xfers (st : State) (recover : Bool) (f : Ctx → M Ctx)
    (hf : ∀ c', f { s := st.core, ctl := st.ctl } = .ok c' → Led { s := st.core, ctl := st.ctl } c' []) :
    xfersOf (runAtomic st recover f).1.effs = [] := by
  by_cases hok : (runAtomic st recover f).1.res = .ok
  · obtain ⟨c, hc, hr⟩ := runAtomic_ok hok
    rw [hr]; exact (hf c hc).start.1
  · exact (runAtomic_failed hok).2

end LedgerInv
open LedgerInv

/-- After a successful module operation every balance is the old balance plus the
    net of the logged transfers: the module moves coins only through the logged bank calls —
    it never mints, burns or strands coins -/
theorem ledger_pointwise (st : State) (op : Op) (hop : op.isModuleOp = true)
    (hok : (step st op).1.res = .ok) (a : Addr) (d : Denom) :
    (step st op).2.core.bank a d = st.core.bank a d + ((xfersOf (step st op).1.effs).map (·.delta a d)).sum := by
  rcases step_led st op hop with ⟨_, h⟩ | ⟨h, _⟩
  · exact h a d
  · exact (h hok).elim

theorem failed_op_no_transfer (st : State) (op : Op) (hop : op.isModuleOp = true)
    (h : (step st op).1.res ≠ .ok) : (step st op).2.core.bank = st.core.bank := by
  rcases step_led st op hop with ⟨h', _⟩ | ⟨_, _, h'⟩
  · exact (h h').elim
  · exact h'

/-- third-party transfers are zero-sum too; `fund` (the faucet) is the only operation that
    changes the supply -/
theorem gift_zero_sum (st : State) (src : Acc) (dst : Addr) (d : Denom) (amt : Int)
    (L : List Addr) (hnd : L.Nodup) (hs : Addr.user src ∈ L) (hd : dst ∈ L) (d' : Denom) :
    (L.map (fun a => (step st (.gift src dst d amt)).2.core.bank a d')).sum =
    (L.map (fun a => st.core.bank a d')).sum := by
  rcases step_gift st src dst d amt with e | ⟨-, -, hb, e⟩ <;> rw [e]
  have e' : (fun a => st.core.bank.move (.user src) dst d amt a d') = (fun a => st.core.bank a d' +
      (⟨.send, .user src, dst, [⟨d, amt⟩]⟩ : Transfer).delta a d') :=
    funext fun a => sendCoins_apply hb .send a d'
  show (L.map (fun a => st.core.bank.move (.user src) dst d amt a d')).sum = _
  rw [e', isum_map_add, delta_zero_sum _ L hnd hs hd d']; omega

/-! ### the only debits of user accounts -/

/-- The bank calls of every successful module operation but a block: the advertised creation
    fee to the community pool, then the offered coin to the new selling escrow; the selling
    escrow back to the auctioneer; the advertised bid fee to the pool, then the bid's reservation
    to the paying escrow; the increase of a reservation; none (a modification that reserves no
    more, allow-list operations, parameter changes). -/
theorem step_transfers (st : State) (op : Op) (hop : op.isModuleOp = true)
    (hok : (step st op).1.res = .ok) :
    (∃ m, op = .msg (.create m) ∧ xfersOf (step st op).1.effs =
      [⟨.pool, .user m.auctioneer, .pool, st.core.params.creationFee⟩,
       ⟨.send, .user m.auctioneer, .sell st.core.views.length, [⟨m.sellDenom, m.sellAmt⟩]⟩]) ∨
    (∃ signer aid v, op = .msg (.cancel signer aid) ∧ st.core.views[aid]? = some v ∧
      v.a.auctioneer = signer ∧
      xfersOf (step st op).1.effs = [cancelXfer { s := st.core, ctl := st.ctl } aid v]) ∨
    (∃ bidder aid t price denom amt v, op = .msg (.place bidder aid (some t) price denom amt) ∧
      st.core.views[aid]? = some v ∧ xfersOf (step st op).1.effs =
        placeXfers { s := st.core, ctl := st.ctl } aid v (v.newBid aid bidder t price denom amt)) ∨
    (∃ bidder aid bidId price denom amt d x, op = .msg (.modify bidder aid bidId price denom amt) ∧
      0 < x ∧ xfersOf (step st op).1.effs = [⟨.send, .user bidder, .pay aid, [⟨d, x⟩]⟩]) ∨
    xfersOf (step st op).1.effs = [] ∨ ∃ t, op = .block t := by
  cases op with
  | msg m =>
    obtain ⟨c, hv, hh, hr⟩ := step_msg_ok hok
    rw [hr]
    cases m with
    | create m =>
      refine .inl ⟨m, rfl, (createAuction_led hh).start.1.trans ?_⟩
      simp only [validateBasic, Bool.and_eq_true, decide_eq_true_eq] at hv
      have hpos : m.sellAmt > 0 := hv.1.1.1.1.1.2
      show createXfers _ m = _
      rw [createXfers, coinsOf, if_neg (by omega)]
    | cancel signer aid =>
      obtain ⟨v, hv', ha, hl⟩ := cancelAuction_led hh
      exact .inr (.inl ⟨signer, aid, v, rfl, hv', ha, hl.start.1⟩)
    | place bidder aid t price denom amt =>
      cases t with
      | none => exact (handle_place_none.mp hh).elim
      | some t =>
        obtain ⟨v, hv', hl⟩ := placeBid_led hh
        exact .inr (.inr (.inl ⟨bidder, aid, t, price, denom, amt, v, rfl, hv', hl.start.1⟩))
    | modify bidder aid bidId price denom amt =>
      rcases modifyBid_led hh with hl | ⟨d, x, hx, hl⟩
      · exact .inr (.inr (.inr (.inr (.inl hl.start.1))))
      · exact .inr (.inr (.inr (.inl ⟨bidder, aid, bidId, price, denom, amt, d, x, rfl, hx, hl.start.1⟩)))
    | addAllowed a ab => exact .inr (.inr (.inr (.inr (.inl (handle_addAllowed_led hh).start.1))))
    | updateParams sg p => exact .inr (.inr (.inr (.inr (.inl (updateParams_led hh).start.1))))
  | kadd a abs =>
    exact .inr (.inr (.inr (.inr (.inl (run_no_xfers st true _ fun _ h => addAllowedBidders_led h)))))
  | kupd a u cap =>
    exact .inr (.inr (.inr (.inr (.inl (run_no_xfers st true _ fun _ h => updateAllowedBidder_led h)))))
  | block t => exact .inr (.inr (.inr (.inr (.inr ⟨t, rfl⟩))))
  | _ => cases hop

/-- blocks: every transfer leaves an escrow of some auction (never a user account) and goes
    to a user account or from the paying to the vesting escrow of the same auction -/
theorem block_transfers (st : State) (t : Int) :
    ∀ x ∈ xfersOf (step st (.block t)).1.effs,
      (∃ i u, (x.src = .sell i ∨ x.src = .pay i ∨ x.src = .vest i) ∧ x.dst = .user u) ∨
      (∃ i, x.src = .pay i ∧ x.dst = .vest i) := by
  intro x hx
  by_cases hok : (step st (.block t)).1.res = .ok
  · obtain ⟨c, hc, hr⟩ := step_block_ok hok
    obtain ⟨xs, hl, hp⟩ := beginBlock_led hc
    rw [hr] at hx
    obtain ⟨j, id, ho⟩ := hp x (hl.start.1 ▸ hx)
    rcases ho with ⟨hs, u, hu⟩ | ⟨h1, h2⟩
    · rcases hs with e | e | e | e
      · exact Or.inl ⟨_, u, Or.inl e, hu⟩
      · exact Or.inl ⟨_, u, Or.inr (Or.inl e), hu⟩
      · exact Or.inl ⟨_, u, Or.inr (Or.inl e), hu⟩
      · exact Or.inl ⟨_, u, Or.inr (Or.inr e), hu⟩
    · exact Or.inr ⟨j, h1, h2⟩
  · rw [(step_block_failed hok).2] at hx
    cases hx

end Fundraising
