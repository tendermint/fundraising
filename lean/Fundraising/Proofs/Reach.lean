import Fundraising.Spec.Invariants
/-
  Histories and reachable states: `run` over a list of operations, and the two inductions the
  invariant families use, over reachable states (`reach_induction`) and, for statements about
  the history itself, over the operations executed so far (`run_induction`).
-/
namespace Fundraising

theorem run_nil (st : State) : run st [] = st := rfl

theorem run_cons (st : State) (op : Op) (ops : List Op) :
    run st (op :: ops) = run (step st op).2 ops := by
  simp [run, List.foldl_cons]

theorem run_append' (st : State) (ops ops' : List Op) :
    run st (ops ++ ops') = run (run st ops) ops' := by
  simp [run, List.foldl_append]

theorem run_snoc (st : State) (ops : List Op) (op : Op) :
    run st (ops ++ [op]) = (step (run st ops) op).2 :=
  run_append' st ops [op]

theorem reach_init : Reach {} := ⟨[], rfl⟩

theorem reach_step {st : State} (h : Reach st) (op : Op) : Reach (step st op).2 := by
  obtain ⟨ops, rfl⟩ := h
  exact ⟨ops ++ [op], run_snoc _ _ _⟩

/-- reachability is closed under any further history; no other theorem uses it -/
theorem reach_run {st : State} (h : Reach st) (ops : List Op) : Reach (run st ops) := by
  induction ops generalizing st with
  | nil => exact h
  | cons op ops ih => rw [run_cons]; exact ih (reach_step h op)

/-- induction over a history, for statements about the history itself: `P done st` where
    `done` is the list of operations executed so far -/
theorem run_induction {P : List Op → State → Prop} (h0 : P [] {})
    (hs : ∀ done op, P done (run {} done) → P (done ++ [op]) (step (run {} done) op).2) :
    ∀ ops, P ops (run {} ops) := by
  have key : ∀ (ops done : List Op), P done (run {} done) → P (done ++ ops) (run {} (done ++ ops)) := by
    intro ops
    induction ops with
    | nil => intro done h; simpa using h
    | cons op ops ih =>
      intro done h
      have h' := hs done op h
      rw [← run_snoc] at h'
      have := ih (done ++ [op]) h'
      simpa [List.append_assoc] using this
  intro ops
  simpa using key ops [] h0

theorem reach_induction {P : State → Prop} (h0 : P {})
    (hs : ∀ st op, Reach st → P st → P (step st op).2) : ∀ st, Reach st → P st := by
  rintro st ⟨ops, rfl⟩
  exact run_induction (P := fun _ st => P st) h0 (fun done op h => hs _ op ⟨done, rfl⟩ h) ops

end Fundraising
