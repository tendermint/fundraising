import Fundraising.Proofs.ProgressProofs
import Fundraising.Proofs.FrameProofs
import Fundraising.Proofs.WFProofs
/-
  C08 / C09 / C13 — progress over SEQUENCES of blocks: the rounds of a batch auction are
  bounded, an end-time event settles it or uses up a round, and what is settled or terminal
  stays so.  Props/C13.lean puts these together.
-/
namespace Fundraising

theorem rounds_bounded (st : State) (h : Reach st) (i : Nat) (v : AView)
    (hv : st.core.views[i]? = some v) :
    v.a.endTimes.length ≤ v.a.maxExt + 1 ∧ v.a.maxExt ≤ 30 ∧ v.a.endTimes ≠ [] :=
  let hw := ((wf_reach st h).views i v hv).auction
  ⟨hw.endLen, hw.maxExt, hw.endNonempty⟩

/-- the measure of the liveness argument: a block at or after the current end time of an open
    auction either settles it or strictly decreases the rounds left `maxExt + 1 − #endTimes`,
    which is non-negative in reachable states (`rounds_bounded`) -/
theorem end_time_event_settles_or_consumes_a_round (st : State) (h : Reach st) (t : Int)
    (hok : (step st (.block t)).1.res = .ok)
    (i : Nat) (v v' : AView) (hv : st.core.views[i]? = some v)
    (hv' : (step st (.block t)).2.core.views[i]? = some v')
    (hs : v.a.status = .started) (hdue : v.a.lastEnd ≤ t) :
    (v'.a.status = .vesting ∨ v'.a.status = .finished) ∨
    (v'.a.status = .started ∧ v'.a.maxExt = v.a.maxExt ∧
      v'.a.maxExt + 1 - v'.a.endTimes.length < v.a.maxExt + 1 - v.a.endTimes.length) := by
  rcases (block_closes st t hok i v v' hv hv' hs).1 hdue with hdone | ⟨hst, _, hlen⟩
  · exact Or.inl hdone
  · -- an extension keeps the terms of the auction, `maxExt` among them
    obtain ⟨v'', h1, h2⟩ := view_step st (.block t) (by simp) (wf_reach st h) i v hv
    rw [hv'] at h1; cases h1
    have hm : v'.a.maxExt = v.a.maxExt := by
      simpa [Auction.terms] using congrArg Terms.maxExt h2.terms
    have hb := (rounds_bounded (step st (.block t)).2 (reach_step h _) i v' hv').1
    exact Or.inr ⟨hst, hm, by omega⟩

def runBlocks (st : State) (ts : List Int) : State := run st (ts.map Op.block)

/-- every block of the sequence succeeds and is at or after the THEN-current end time of
    auction `i` whenever that auction is still open -/
def DueRun (i : Nat) : State → List Int → Prop
  | _, [] => True
  | st, t :: ts =>
    (step st (.block t)).1.res = .ok ∧
    (∀ v, st.core.views[i]? = some v → v.a.status = .started → v.a.lastEnd ≤ t) ∧
    DueRun i (step st (.block t)).2 ts

namespace LivenessInv

theorem runBlocks_nil (st : State) : runBlocks st [] = st := rfl

theorem runBlocks_cons (st : State) (t : Int) (ts : List Int) :
    runBlocks st (t :: ts) = runBlocks (step st (.block t)).2 ts := by
  simp [runBlocks, run_cons]

theorem settled_step (st : State) (h : Reach st) (op : Op) (hop : op ≠ .reset) (i : Nat) (v : AView)
    (hv : st.core.views[i]? = some v) (hs : v.a.status = .vesting ∨ v.a.status = .finished) :
    ∃ v', (step st op).2.core.views[i]? = some v' ∧
      (v'.a.status = .vesting ∨ v'.a.status = .finished) := by
  obtain ⟨v', h1, h2⟩ := view_step st op hop (wf_reach st h) i v hv
  have h2 := h2.status
  refine ⟨v', h1, ?_⟩
  rcases hs with hs | hs <;> rw [hs] at h2 <;> cases hs' : v'.a.status <;>
    simp [hs', statusEdge] at h2 ⊢

theorem settled_runBlocks (ts : List Int) : ∀ (st : State) (_ : Reach st) (i : Nat) (v : AView)
    (_ : st.core.views[i]? = some v) (_ : v.a.status = .vesting ∨ v.a.status = .finished),
    ∃ v', (runBlocks st ts).core.views[i]? = some v' ∧
      (v'.a.status = .vesting ∨ v'.a.status = .finished) := by
  induction ts with
  | nil => intro st _ i v hv hs; exact ⟨v, hv, hs⟩
  | cons t ts ih =>
    intro st h i v hv hs
    obtain ⟨v', h1, h2⟩ := settled_step st h (.block t) (by simp) i v hv hs
    rw [runBlocks_cons]
    exact ih _ (reach_step h _) i v' h1 h2

end LivenessInv

theorem terminal_is_absorbing_under_blocks (st : State) (h : Reach st) (i : Nat) (v : AView)
    (hv : st.core.views[i]? = some v) (hs : v.a.status = .finished ∨ v.a.status = .cancelled)
    (ts : List Int) : (runBlocks st ts).core.views[i]? = some v := by
  induction ts generalizing st with
  | nil => exact hv
  | cons t ts ih =>
    rw [LivenessInv.runBlocks_cons]
    exact ih _ (reach_step h _) (block_terminal st t i v hv hs)

end Fundraising
