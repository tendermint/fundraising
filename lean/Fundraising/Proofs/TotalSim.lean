import Fundraising.Proofs.Exec
/-
  C07 / C17: a failure armed in the controls (a failing bank call, a failing listener) makes a
  handler follow the failure-free run up to the failing primitive and then reject (never
  panic).  Generic in what is armed (`SimSpec`) and in what is claimed of the rejected run's log
  (`B`): the lemmas of `Sim`, every handler walked once by composing them (block handlers, then
  message handlers and keeper-API calls), what that says of a whole atomic operation
  (`runAtomic_armed`, `step_armed`), and the two instances.  `Rel`, at the end, states the
  simulation on both sides of the failing primitive; `Sim` is its `Good` half.
-/
namespace Fundraising

section
/-- what is armed (`arm`), when a context of the failure-free run is still before the
    failing primitive (`Good`), and when it is past it (`Past`, which only `Rel` reads) -/
structure SimSpec where
  arm : Control → Control
  Good : List Eff → Nat → Prop
  Past : List Eff → Nat → Prop

def SimSpec.armC (S : SimSpec) (c : Ctx) : Ctx := { c with ctl := S.arm c.ctl }

/-- `x`: what a piece of a handler returns from the context `c` of the failure-free run;
    `y`: what the same piece returns from the armed `c`.  While the failure has not struck
    (`Good`), `y` is the armed `x`, unless it strikes inside the piece: then `y` is a
    rejection whose log satisfies `B`.  Only the log and the call counter of `c` matter. -/
def Sim (S : SimSpec) (B : List Eff → Prop) (c : Ctx) (x y : M Ctx) : Prop :=
  ∀ c', x = .ok c' → S.Good c.effs c.calls →
    (S.Good c'.effs c'.calls ∧ y = .ok (S.armC c')) ∨ ∃ e, y = .error ⟨.reject, e⟩ ∧ B e

def Sound (S : SimSpec) (B : List Eff → Prop) (f : Ctx → M Ctx) : Prop :=
  ∀ c, Sim S B c (f c) (f (S.armC c))

/-- the two primitives that look at the controls -/
structure SimOK (S : SimSpec) (B : List Eff → Prop) : Prop where
  bank : ∀ k src dst coins, Sound S B (·.bankCall k src dst coins)
  hook : ∀ name args, Sound S B (·.hook name args)

variable {S : SimSpec} {B : List Eff → Prop} {c : Ctx}

namespace Sim

/-- sequencing: the continuation resumes from the armed intermediate context -/
theorem bind {x x' : M Ctx} {g g' : Ctx → M Ctx} (h1 : Sim S B c x x')
    (h2 : ∀ c1, Sim S B c1 (g c1) (g' (S.armC c1))) : Sim S B c (x >>= g) (x' >>= g') := by
  intro c' h hg
  obtain ⟨c1, hx, h⟩ := bind_ok.1 h
  rcases h1 c1 hx hg with ⟨hg1, rfl⟩ | ⟨e, rfl, hb⟩
  · exact h2 c1 c' h hg1
  · exact Or.inr ⟨e, rfl, hb⟩

/-- a reader (`view`, `mkCoins`, `check`, a lookup) does not see the controls: `hr` is `rfl` -/
theorem read {α : Type} {r r' : M α} {g g' : α → M Ctx} (hr : r' = r)
    (h : ∀ a, Sim S B c (g a) (g' a)) : Sim S B c (r >>= g) (r' >>= g') := by
  subst hr
  intro c' hx hg
  obtain ⟨a, rfl, hx⟩ := bind_ok.1 hx
  exact h a c' hx hg

/-- a pure state change (store writes) -/
theorem pure {c' : Ctx} (he : c'.effs = c.effs) (hc : c'.calls = c.calls) :
    Sim S B c (pure c') (pure (S.armC c')) := by
  rintro _ ⟨⟩ hg
  rw [he, hc]
  exact Or.inl ⟨hg, rfl⟩

/-- only the log and the call counter of the starting context matter -/
theorem base {c0 : Ctx} {x y : M Ctx} (he : c.effs = c0.effs) (hc : c.calls = c0.calls)
    (h : Sim S B c x y) : Sim S B c0 x y := by
  unfold Sim at h ⊢
  rw [← he, ← hc]
  exact h

theorem error {f : Fail} {y : M Ctx} : Sim S B c (.error f) y :=
  fun _ h => nomatch h

theorem ite {p : Prop} [Decidable p] {x x' y y' : M Ctx} (h1 : p → Sim S B c x y)
    (h2 : ¬ p → Sim S B c x' y') :
    Sim S B c (if p then x else x') (if p then y else y') := by
  split
  · exact h1 ‹_›
  · exact h2 ‹_›

end Sim

/-! `armC` changes the controls only: what does not read them commutes with it.  `bal_armC` and
    `check_armC` are used as rewrite rules; the handler walks close the other instances by `rfl`
    (`Sim.read`, `Sim.pure`), and no theorem uses `setView_armC`, `s_armC`, `fail_armC`. -/

theorem setView_armC (c : Ctx) (aid : Nat) (v : AView) :
    (S.armC c).setView aid v = S.armC (c.setView aid v) := rfl
theorem bal_armC (c : Ctx) (a : Addr) (d : Denom) : (S.armC c).bal a d = c.bal a d := rfl
theorem s_armC (c : Ctx) : (S.armC c).s = c.s := rfl

namespace HookInv
theorem check_armC {S : SimSpec} (c : Ctx) (b : Bool) : (S.armC c).check b = c.check b := rfl
theorem fail_armC {S : SimSpec} {α : Type} (c : Ctx) (e : Err) :
    ((S.armC c).fail e : M α) = c.fail e := rfl
end HookInv

/-! ### the handlers of a block -/

theorem payOut_sim (hS : SimOK S B) (src : Addr) (d : Denom) : ∀ l, Sound S B (payOut · src d l)
  | [], _ => .pure rfl rfl
  | (u, amt) :: rest, c => by
    unfold payOut
    refine .ite (fun _ => payOut_sim hS src d rest c) fun _ => .read rfl fun coins => ?_
    exact .bind (hS.bank _ _ _ _ c) (payOut_sim hS src d rest)

theorem allocateSellingCoin_sim (hS : SimOK S B) (a : Auction) (mi : MInfo) :
    Sound S B (allocateSellingCoin · a mi) :=
  fun c => .bind (hS.hook _ _ c) (payOut_sim hS _ _ _)

theorem refundRemainingSellingCoin_sim (hS : SimOK S B) (a : Auction) :
    Sound S B (refundRemainingSellingCoin · a) :=
  fun c => .read rfl fun _ => hS.bank _ _ _ _ c

theorem refundPayingCoin_sim (hS : SimOK S B) (a : Auction) (mi : MInfo) :
    Sound S B (refundPayingCoin · a mi) :=
  payOut_sim hS _ _ _

theorem applyVestingSchedules_sim (hS : SimOK S B) (aid : Nat) :
    Sound S B (applyVestingSchedules · aid) := by
  intro c
  unfold applyVestingSchedules
  simp only [bal_armC]
  refine .read rfl fun v => .read rfl fun coins => .ite (fun _ => ?_) fun _ => ?_
  · exact .bind (hS.bank _ _ _ _ c) fun _ => .pure rfl rfl
  · refine .bind (hS.bank _ _ _ _ c) fun _ => ?_
    split
    · exact .error
    · exact .pure rfl rfl

theorem closeFixed_sim (hS : SimOK S B) (aid : Nat) : Sound S B (closeFixed · aid) :=
  fun c => .read rfl fun _ => .bind (allocateSellingCoin_sim hS _ _ c) fun c1 =>
    .bind (refundRemainingSellingCoin_sim hS _ c1) (applyVestingSchedules_sim hS aid)

theorem extendRound_sim (aid : Nat) : Sound S B (extendRound · aid) :=
  fun _ => .read rfl fun _ => .pure rfl rfl

theorem settleBatch_sim (hS : SimOK S B) (aid : Nat) (mi : MInfo) :
    Sound S B (settleBatch · aid mi) :=
  fun c => .read rfl fun _ => .bind (allocateSellingCoin_sim hS _ _ c) fun c1 =>
    .bind (refundRemainingSellingCoin_sim hS _ c1) fun c2 =>
      .bind (refundPayingCoin_sim hS _ _ c2) fun c3 => .read rfl fun _ =>
        (applyVestingSchedules_sim hS aid (c3.setView aid _)).base rfl rfl

theorem closeBatch_sim (hS : SimOK S B) (aid : Nat) : Sound S B (closeBatch · aid) := by
  intro c
  unfold closeBatch
  refine .read rfl fun v => ?_
  cases calcBatch v.a v.bids v.allowed with
  | none => exact .error
  | some mi =>
  refine .read rfl fun mi => ?_
  exact .ite (fun _ => (settleBatch_sim hS aid mi _).base rfl rfl) fun _ =>
    .ite (fun _ => (extendRound_sim aid _).base rfl rfl) fun _ =>
      .ite (fun _ => (extendRound_sim aid _).base rfl rfl) fun _ =>
        (settleBatch_sim hS aid mi _).base rfl rfl

theorem releaseLoop_sim (hS : SimOK S B) (aid : Nat) (auctioneer : Acc) (n : Nat) :
    ∀ (l : List VQ) (i : Nat), Sound S B (releaseLoop · aid auctioneer n i l)
  | [], _, _ => .pure rfl rfl
  | q :: rest, i, c => by
    unfold releaseLoop
    have next := releaseLoop_sim hS aid auctioneer n rest (i + 1)
    refine .ite (fun _ => ?_) fun _ => next c
    refine .read rfl fun coins => .bind (hS.bank _ _ _ _ c) fun c1 => .read rfl fun v => ?_
    exact .ite (fun _ => .read rfl fun _ => .bind (.pure rfl rfl) next) fun _ => .bind (.pure rfl rfl) next

theorem releaseVesting_sim (hS : SimOK S B) (aid : Nat) : Sound S B (releaseVesting · aid) :=
  fun c => .read rfl fun _ => releaseLoop_sim hS _ _ _ _ _ c

theorem blockStep_sim (hS : SimOK S B) (aid : Nat) : Sound S B (blockStep · aid) := by
  intro c
  unfold blockStep
  refine .read rfl fun v => ?_
  split
  · exact .ite (fun _ => .pure rfl rfl) fun _ => .pure rfl rfl
  · split
    · exact .error
    · refine .ite (fun _ => ?_) fun _ => .pure rfl rfl
      split
      · exact closeFixed_sim hS aid c
      · exact closeBatch_sim hS aid c
  · exact releaseVesting_sim hS aid c
  · exact .pure rfl rfl
  · exact .pure rfl rfl

theorem blockLoop_sim (hS : SimOK S B) : ∀ l, Sound S B (blockLoop · l)
  | [], _ => .pure rfl rfl
  | aid :: rest, c => .bind (blockStep_sim hS aid c) (blockLoop_sim hS rest)

theorem beginBlock_sim (hS : SimOK S B) (t : Int) : Sound S B (beginBlock · t) :=
  fun c => (blockLoop_sim hS _ { c with s := { c.s with now := t } }).base rfl rfl

/-! ### the message handlers and the keeper-API calls -/

theorem createAuction_sim (hS : SimOK S B) (m : CreateMsg) : Sound S B (createAuction · m) := by
  intro c
  unfold createAuction
  refine .read rfl fun _ => .read rfl fun _ => .read rfl fun _ =>
    .bind (hS.bank _ _ _ _ c) fun c1 => .read rfl fun _ => .bind (hS.bank _ _ _ _ c1) fun c2 =>
      .bind (hS.hook _ _ c2) fun c3 => ?_
  exact (hS.hook _ _ { c3 with s := { c3.s with views := c3.s.views ++ [_] } }).base rfl rfl

theorem cancelAuction_sim (hS : SimOK S B) (signer : Acc) (aid : Nat) :
    Sound S B (cancelAuction · signer aid) :=
  fun c => .read rfl fun _ => .read rfl fun _ => .read rfl fun _ => .read rfl fun _ =>
    .bind (hS.bank _ _ _ _ c) fun c1 => .bind (hS.hook _ _ c1) fun _ => .pure rfl rfl

theorem placeBid_sim (hS : SimOK S B) (bidder : Acc) (aid : Nat) (t : BidType) (price : Dec)
    (denom : Denom) (amt : Int) : Sound S B (placeBid · bidder aid t price denom amt) := by
  intro c
  unfold placeBid
  refine .read rfl fun v => .read rfl fun _ => .read rfl fun _ => ?_
  cases lookupAllowed v.allowed bidder with
  | none => exact .error
  | some ab =>
  refine .read rfl fun ab => .bind (hS.bank _ _ _ _ c) fun c1 => ?_
  -- the reservation returns the context in a triple: flatten it into the handler's own chain
  cases t <;> simp only [bind_assoc, pure_bind]
  · exact .read rfl fun _ => .read rfl fun _ => .read rfl fun _ => .read rfl fun _ =>
      .read rfl fun _ => .read rfl fun _ => .bind (hS.bank _ _ _ _ c1) fun c2 =>
        .bind (hS.hook _ _ c2) fun _ => .pure rfl rfl
  · exact .read rfl fun _ => .read rfl fun _ => .read rfl fun _ => .read rfl fun _ =>
      .bind (hS.bank _ _ _ _ c1) fun c2 => .bind (hS.hook _ _ c2) fun _ => .pure rfl rfl
  · exact .read rfl fun _ => .read rfl fun _ => .read rfl fun _ => .read rfl fun _ =>
      .bind (hS.bank _ _ _ _ c1) fun c2 => .bind (hS.hook _ _ c2) fun _ => .pure rfl rfl

theorem modifyBid_sim (hS : SimOK S B) (bidder : Acc) (aid bidId : Nat) (price : Dec)
    (denom : Denom) (amt : Int) : Sound S B (modifyBid · bidder aid bidId price denom amt) := by
  intro c
  unfold modifyBid
  refine .read rfl fun v => .read rfl fun _ => .read rfl fun _ => ?_
  cases v.bids.find? (·.id == bidId) with
  | none => exact .error
  | some bid =>
  refine .read rfl fun bid => .read rfl fun _ => .read rfl fun _ => .read rfl fun _ =>
    .read rfl fun _ => .read rfl fun _ => .bind ?_ fun c1 => .bind (hS.hook _ _ c1) fun _ => .pure rfl rfl
  have stay : Sim S B c (pure c) (pure (S.armC c)) := .pure rfl rfl
  cases bid.type with
  | worth => exact .ite (fun _ => hS.bank _ _ _ _ c) fun _ => stay
  | many => exact .ite (fun _ => .error) fun _ => .ite (fun _ => hS.bank _ _ _ _ c) fun _ => stay
  | fixed => exact stay

theorem addLoop_armC (c : Ctx) (sellAmt : Int) :
    ∀ (abs : List AllowedArg) (l : List Allowed),
      addLoop (S.armC c) sellAmt abs l = addLoop c sellAmt abs l
  | [], _ => rfl
  | _ :: rest, _ => by
    simp only [addLoop, HookInv.check_armC, addLoop_armC c sellAmt rest]

theorem addAllowedBidders_sim (hS : SimOK S B) (aid : Nat) (abs : List AllowedArg) :
    Sound S B (addAllowedBidders · aid abs) :=
  fun c => .read rfl fun _ => .read rfl fun _ => .bind (hS.hook _ _ c) fun _ =>
    .read (addLoop_armC _ _ _ _) fun _ => .pure rfl rfl

theorem updateAllowedBidder_sim (hS : SimOK S B) (aid : Nat) (bidder : Acc) (cap : Int) :
    Sound S B (updateAllowedBidder · aid bidder cap) :=
  fun c => .read rfl fun _ => .read rfl fun _ => .read rfl fun _ => .bind (hS.hook _ _ c) fun _ =>
    .pure rfl rfl

theorem handle_sim (hS : SimOK S B) (m : Msg) : Sound S B (handle · m) := by
  intro c
  cases m with
  | create m => exact createAuction_sim hS m c
  | cancel signer aid => exact cancelAuction_sim hS signer aid c
  | place bidder aid t price denom amt =>
    cases t with
    | none => exact .error
    | some t => exact placeBid_sim hS bidder aid t price denom amt c
  | modify bidder aid bidId price denom amt => exact modifyBid_sim hS bidder aid bidId price denom amt c
  | addAllowed aid ab => exact .read rfl fun _ => addAllowedBidders_sim hS aid [ab] c
  | updateParams signer p =>
    exact .read rfl fun _ => .read rfl fun _ => .read rfl fun _ => .pure rfl rfl

theorem deliver_sim (hS : SimOK S B) (m : Msg) : Sound S B (deliver · m) :=
  fun c => .read rfl fun _ => handle_sim hS m c

end

/-! ### a whole atomic operation -/

/-- an atomic operation whose failure-free run ends beyond the failing primitive is rejected
    when the failure is armed: nothing is committed, and the rejected run's log satisfies `B` -/
theorem runAtomic_armed {S : SimSpec} {B : List Eff → Prop} {f : Ctx → M Ctx}
    (hf : Sound S B f) (st : State) (recover : Bool) (hg : S.Good [] 0)
    (hok : (runAtomic st recover f).1.res = .ok)
    (hbad : ∀ n, ¬ S.Good (runAtomic st recover f).1.effs n) :
    ∃ e, B e ∧ runAtomic { st with ctl := S.arm st.ctl } recover f =
      ({ res := .err, effs := e.filter Eff.isHook },
       { core := st.core, ctl := clearOneShots (S.arm st.ctl) }) := by
  rcases runAtomic_cases st recover f with ⟨c', hc', hr⟩ | ⟨_, _, _, hne⟩
  · rw [hr] at hbad
    rcases hf _ c' hc' hg with ⟨hgood, _⟩ | ⟨e, he, hb⟩
    · exact absurd hgood (hbad _)
    · have he' : f { s := st.core, ctl := S.arm st.ctl } = .error ⟨.reject, e⟩ := he
      refine ⟨e, hb, ?_⟩
      unfold runAtomic
      simp only [he', reduceCtorEq, false_and, ↓reduceIte]
  · exact absurd hok hne

/-- the same for every operation of the system (an operation that is not the module's logs
    nothing, so its log cannot lie beyond the failing primitive) -/
theorem step_armed {S : SimSpec} {B : List Eff → Prop} (hS : SimOK S B) (st : State) (op : Op)
    (hg : S.Good [] 0) (hok : (step st op).1.res = .ok)
    (hbad : ∀ n, ¬ S.Good (step st op).1.effs n) :
    ∃ e, B e ∧ step { st with ctl := S.arm st.ctl } op =
      ({ res := .err, effs := e.filter Eff.isHook },
       { core := (match (generalizing := false) op with
           | .block t => { st.core with now := t } | _ => st.core),
         ctl := clearOneShots (S.arm st.ctl) }) := by
  cases op with
  | msg m => exact runAtomic_armed (deliver_sim hS m) st true hg hok hbad
  | kadd aid abs => exact runAtomic_armed (addAllowedBidders_sim hS aid abs) st true hg hok hbad
  | kupd aid u cap => exact runAtomic_armed (updateAllowedBidder_sim hS aid u cap) st true hg hok hbad
  | block t =>
    exact runAtomic_armed (beginBlock_sim hS t) { st with core := { st.core with now := t } } false
      hg hok hbad
  | gift src dst d amt =>
    rcases step_gift st src dst d amt with e | ⟨-, -, -, e⟩ <;> rw [e] at hbad <;>
      exact absurd hg (hbad 0)
  | genesis =>
    rcases step_genesis_cases st with ⟨_, e⟩ | ⟨_, -, e⟩ <;> rw [e] at hbad <;>
      exact absurd hg (hbad 0)
  | _ => exact absurd hg (hbad 0)

/-! ### a failing bank call -/

/-- number of bank / distribution calls in an effect log -/
def xferCount (effs : List Eff) : Nat := (effs.filter (fun e => !e.isHook)).length

theorem xferCount_append (l l' : List Eff) : xferCount (l ++ l') = xferCount l + xferCount l' := by
  simp only [xferCount, List.filter_append, List.length_append]

theorem xferCount_hooks (name : String) (args : List String) (is : List Nat) :
    xferCount (is.map (fun i => Eff.hook i name args)) = 0 := by
  induction is with
  | nil => rfl
  | cons i is ih => exact ih

/-- `Good`: the call counter counts the logged transfers and has not passed `k` -/
def faultSpec (k : Nat) : SimSpec where
  arm ctl := { ctl with fault := some k }
  Good effs calls := calls = xferCount effs ∧ calls ≤ k
  Past effs _ := k < xferCount effs

theorem dispatchTo_armC (S : SimSpec) (name : String) (args : List String) :
    ∀ (is : List Nat) (c c' : Ctx), dispatchTo name args is c = .ok c' →
      (∀ i ∈ is, (S.arm c.ctl).failhook ≠ some (name, i)) →
      dispatchTo name args is (S.armC c) = .ok (S.armC c')
  | [], c, c', h, _ => by
    cases h
    rfl
  | i :: is, c, c', h, hne => by
    unfold dispatchTo at h ⊢
    split at h
    · cases h
    · exact (if_neg (hne i List.mem_cons_self)).trans
        (dispatchTo_armC S name args is _ c' h fun j hj => hne j (List.mem_cons_of_mem _ hj))

theorem faultSpec_ok (k : Nat) : SimOK (faultSpec k) (fun _ => True) where
  bank := by
    rintro kind src dst coins c c' h ⟨h1, h2⟩
    obtain ⟨_, b, hb, rfl⟩ := bankCall_ok h
    by_cases hk : c.calls = k
    · refine Or.inr ⟨c.effs, ?_, trivial⟩
      exact if_pos (show some k = some c.calls by rw [hk])
    · refine Or.inl ⟨⟨?_, by show c.calls + 1 ≤ k; omega⟩, ?_⟩
      · show c.calls + 1 = xferCount (c.effs ++ [_])
        rw [xferCount_append, h1]
        rfl
      · refine bankCall_of_send (c := (faultSpec k).armC c) (fun e => hk ?_) hb
        injection e with e
        exact e.symm
  hook := by
    rintro name args c c' h ⟨g1, g2⟩
    obtain ⟨_, _, h3, h4, h5⟩ := dispatchTo_ok h
    refine Or.inl ⟨⟨?_, h3 ▸ g2⟩, dispatchTo_armC (faultSpec k) name args _ c c' h h5⟩
    rw [h4, xferCount_append, xferCount_hooks, h3]
    exact g1

/-! ### a failing listener -/

namespace HookInv

/-- no listener after `j` was called for hook `name` -/
def NoLater (name : String) (j : Nat) (e : List Eff) : Prop :=
  ∀ k a, j < k → Eff.hook k name a ∉ e

variable {name : String} {j : Nat}

theorem NoLater.filter {e : List Eff} (h : NoLater name j e) (p : Eff → Bool) :
    NoLater name j (e.filter p) :=
  fun k a hk hm => h k a hk (List.mem_filter.1 hm).1

end HookInv
open HookInv (NoLater)

/-- `Good`: any entry of hook `name` logged so far comes from a dispatch that ended before
    listener `j` (so the armed run passed it unharmed) -/
def hookSpec (name : String) (j : Nat) : SimSpec where
  arm ctl := { ctl with failhook := some (name, j) }
  Good effs _ := ∀ i a, Eff.hook i name a ∈ effs → i < j
  Past effs _ := ∃ a, Eff.hook j name a ∈ effs

/-- with listener `j` failing on `name`, a dispatch in ascending order that reaches it is
    rejected there: no later listener is called -/
theorem dispatchTo_reject (name : String) (j : Nat) (args : List String) :
    ∀ (is : List Nat) (c : Ctx), c.ctl.failhook = some (name, j) → j ∈ is →
      is.Pairwise (· < ·) → NoLater name j c.effs →
      ∃ e, dispatchTo name args is c = .error ⟨.reject, e⟩ ∧ NoLater name j e
  | [], _, _, hm, _, _ => nomatch hm
  | i :: is, c, hf, hm, hp, hn => by
    have hlog : i ≤ j → NoLater name j (c.effs ++ [Eff.hook i name args]) := by
      intro hi k a hk hmem
      rcases List.mem_append.1 hmem with hmem | hmem
      · exact hn k a hk hmem
      · cases List.mem_singleton.1 hmem
        omega
    unfold dispatchTo
    by_cases hi : i = j
    · subst hi
      rw [if_pos hf]
      exact ⟨_, rfl, hlog (Nat.le_refl _)⟩
    · have hm' : j ∈ is := (List.mem_cons.1 hm).resolve_left (Ne.symm hi)
      have hlt : i < j := List.rel_of_pairwise_cons hp hm'
      rw [if_neg (by rw [hf]; intro e; injection e with e; injection e with _ e; exact hi e.symm)]
      exact dispatchTo_reject name j args is _ hf hm' hp.of_cons (hlog (Nat.le_of_lt hlt))

theorem hookSpec_ok (name : String) (j : Nat) : SimOK (hookSpec name j) (NoLater name j) where
  bank := by
    intro kind src dst coins c c' h hg
    obtain ⟨hne, b, hb, rfl⟩ := bankCall_ok h
    refine Or.inl ⟨fun i a hm => ?_, bankCall_of_send (c := (hookSpec name j).armC c) hne hb⟩
    rcases List.mem_append.1 hm with hm | hm
    · exact hg i a hm
    · cases List.mem_singleton.1 hm
  hook := by
    intro name' args' c c' h hg
    obtain ⟨_, _, _, h4, _⟩ := dispatchTo_ok h
    by_cases hhit : name' = name ∧ j < c.ctl.listeners
    · obtain ⟨rfl, hlt⟩ := hhit
      exact Or.inr (dispatchTo_reject name' j args' _ ((hookSpec name' j).armC c) rfl
        (List.mem_range.2 hlt) List.pairwise_lt_range
        fun k a hk hm => Nat.lt_asymm hk (hg k a hm))
    · have hmiss : ∀ i ∈ List.range c.ctl.listeners, name' = name → i < j := fun i hi e =>
        Nat.lt_of_lt_of_le (List.mem_range.1 hi) (Nat.le_of_not_lt fun hlt => hhit ⟨e, hlt⟩)
      refine Or.inl ⟨fun i a hm => ?_, dispatchTo_armC (hookSpec name j) name' args' _ c c' h ?_⟩
      · have hm' : Eff.hook i name a ∈ c'.effs := hm
        rw [h4] at hm'
        rcases List.mem_append.1 hm' with hm' | hm'
        · exact hg i a hm'
        · obtain ⟨i', hi', e⟩ := List.mem_map.1 hm'
          injection e with e1 e2 _
          exact e1 ▸ hmiss i' hi' e2
      · intro i hi e
        have e' : some (name, j) = some (name', i) := e
        injection e' with e'
        injection e' with e1 e2
        exact Nat.lt_irrefl i (e2 ▸ hmiss i hi e1.symm)

/-! ### the simulation on both sides of the failing primitive

`Rel S c0 c2 y` relates two contexts of the failure-free run, before and after a piece of a
handler, to the result `y` of that piece from the armed `c0`.  While the run is before the failing
primitive (`Good`) it says what `Sim` says, with `Past` of the later context in the place of `B`;
once the run is past it (`Past`) it stays past it.  `Rel.trans_pure`: a pure step after the piece
keeps the relation.  The handlers are walked with `Sim`, for which a rejection ends the armed run
and nothing resumes; no other theorem uses `Rel`, and `SimSpec.Past` is read by it alone. -/

section
/-- `c0`/`c2`: contexts of the failure-free run before/after a piece of a handler;
    `y`: the result of the same piece run from the armed `c0` -/
def Rel (S : SimSpec) (c0 c2 : Ctx) (y : M Ctx) : Prop :=
  (S.Past c0.effs c0.calls → S.Past c2.effs c2.calls) ∧
  (S.Good c0.effs c0.calls →
    (S.Good c2.effs c2.calls ∧ y = .ok (S.armC c2)) ∨
    (S.Past c2.effs c2.calls ∧ ∃ e, y = .error ⟨.reject, e⟩))

variable {S : SimSpec}

theorem Rel.trans_pure {c0 c1 c2 : Ctx} {y : M Ctx} (h : Rel S c0 c1 y)
    (he : c2.effs = c1.effs) (hc : c2.calls = c1.calls) (f : Ctx → Ctx)
    (hf : f (S.armC c1) = S.armC c2) : Rel S c0 c2 (y >>= fun c => .ok (f c)) := by
  unfold Rel at h ⊢
  rw [he, hc]
  refine ⟨h.1, fun hg => (h.2 hg).imp ?_ ?_⟩
  · rintro ⟨hg1, rfl⟩
    exact ⟨hg1, congrArg Except.ok hf⟩
  · rintro ⟨hp, e, rfl⟩
    exact ⟨hp, e, rfl⟩

end

end Fundraising
