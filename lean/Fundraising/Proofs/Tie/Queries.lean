import Fundraising.Generated.Code.Queries
import Fundraising.Proofs.Tie.Store
import Fundraising.Model.Genesis
/-
  Tie of the translated gRPC query handlers (keeper/query_*.go) to the model's query functions
  (Model/Genesis.lean `queryBids`, `queryBid`, `queryAuctions`, `queryAuction`, `queryAllowedAll`,
  `queryAllowedOne`, `queryVestingsAll`) — the functions `Props/C16` states "filtered listings and
  queries by id return exactly the stored objects that satisfy the request" about, and with which
  the differential run compares the answers of the real handlers.

  A listing is all its pages together (`Go.paginate`): how the SDK cuts it into pages is not
  modelled.  The ties of `ListAllowedBidder` and `ListVestingQueue` are disjunctions: EITHER what the
  code does (it walks the whole collection, whatever `auction_id` the request carries: the known
  finding of C16) OR the records of the requested auction, so that they hold before and after a repair.
-/
namespace Fundraising
open Fundraising.Gen Fundraising.Go

namespace TieQueries

/-- what `Go.paginate` returns when neither closure reports an error: filter, then transform -/
theorem paginate_eq {α β : Type} (l : List α) (pred : α → Bool × Bool) (tr : α → β × Bool)
    (p : α → Bool) (f : α → β) (hp : ∀ x, pred x = (p x, false)) (hf : ∀ x, tr x = (f x, false)) :
    Go.paginate l pred tr = ((l.filter p).map f, (), false) := by
  have e1 : pred = fun x => (p x, false) := funext hp
  have e2 : tr = fun x => (f x, false) := funext hf
  subst e1; subst e2
  simp [Go.paginate]

/-- … for a transform that hands the record through (what the listings that filter use) -/
theorem paginate_filter {α : Type} (l : List α) (pred : α → Bool × Bool) (tr : α → α × Bool)
    (q : α → Bool) (hp : ∀ x, pred x = (q x, false)) (hf : ∀ x, tr x = (x, false)) :
    Go.paginate l pred tr = (l.filter q, (), false) := by
  rw [paginate_eq l pred tr q (fun x => x) hp hf, List.map_id']

/-- … for a transform and no filter; no other theorem uses it -/
theorem paginate_all {α β : Type} (l : List α) (tr : α → β × Bool)
    (f : α → β) (hf : ∀ x, tr x = (f x, false)) :
    Go.paginate l (fun _ => (true, false)) tr = (l.map f, (), false) := by
  rw [paginate_eq l _ tr (fun _ => true) f (fun _ => rfl) hf, List.filter_eq_self.2 (fun _ _ => rfl)]

/-- a listing without a filter: every record, whatever closures spell "keep it, as it is" -/
theorem paginate_true {α : Type} (l : List α) (pred : α → Bool × Bool) (tr : α → α × Bool)
    (hp : ∀ x, pred x = (true, false)) (hf : ∀ x, tr x = (x, false)) :
    Go.paginate l pred tr = (l, (), false) := by
  rw [paginate_filter l pred tr (fun _ => true) hp hf]
  simp

def bidFilter (bidder : Option Acc) (matched : Option Bool) (b : Bid) : Bool :=
  (match bidder with | some u => b.bidder == u | none => true)
  && (match matched with | some m => b.matched == m | none => true)

theorem queryBids_eq (s : Core) (aid : Nat) (bidder : Option Acc) (matched : Option Bool) :
    queryBids s aid bidder matched =
      List.filter (bidFilter bidder matched) (GStore.bidsOf (storeOf s) (aid : Int)) := by
  simp only [bidsOf_storeOf, rdBids, viewAt_nat, queryBids]
  cases s.views[aid]? with
  | none => rfl
  | some v => rfl

def aucFilter (st : Option Status) (ty : Option AType) (a : Auction) : Bool :=
  (match st with | some x => a.status == x | none => true)
  && (match ty with | some x => a.type == x | none => true)

theorem queryAuctions_eq (s : Core) (st : Option Status) (ty : Option AType) :
    queryAuctions s st ty = List.filter (aucFilter st ty) (GStore.allAuctions (storeOf s)) := rfl

end TieQueries
open TieQueries

/-- `ListBid`, well-formed request (`hb`: a bidder string, if there is one, is an address) -/
theorem tie_Query_ListBid (s : Core) (aid : Nat) (bidder : Option Acc) (matched : Option Bool)
    (hb : ∀ u, bidder = some u → validAcc u = true) :
    Gen.Query_ListBid ⟨aid, bidder, matched.map BoolStr.is⟩ (storeOf s) =
      (some ⟨queryBids s aid bidder matched⟩, false, storeOf s) := by
  rw [queryBids_eq]
  generalize hF : bidFilter bidder matched = F
  -- By cases on which filters the REQUEST carries: the guards on its strings then evaluate
  -- (`hb`: a bidder string is an address), and what is left is the paginator with one closure …
  rcases bidder with _ | u <;> rcases matched with _ | m <;>
    simp only [Gen.Query_ListBid, Option.map, Option.isNone, Bool.not_true, Bool.not_false, Bool.false_eq_true,
      if_false, if_true, Go.parseBoolStr, Go.optAccParse, hb] <;>
    rw [paginate_filter _ _ _ F (fun x => ?_) (fun _ => rfl)] <;> subst hF
  -- … which computes `bidFilter` of that request: a record has the requested bidder / flag or
  -- it has not, and both sides are then closed booleans whatever way the code combines the tests
  · rfl
  · simp [bidFilter]
  · rfl
  · by_cases h2 : x.matched = m <;> simp [bidFilter, h2]
  · rfl
  · by_cases h1 : x.bidder = u <;> simp [bidFilter, h1]
  · rfl
  · by_cases h1 : x.bidder = u <;> by_cases h2 : x.matched = m <;> simp [bidFilter, h1, h2]

theorem tie_Query_ListBid_malformed (s : Core) (aid : Int) (bidder : Option Acc) (m : Option BoolStr)
    (h : (∃ u, bidder = some u ∧ validAcc u = false) ∨ m = some BoolStr.junk) :
    (Gen.Query_ListBid ⟨aid, bidder, m⟩ (storeOf s)).1 = none ∧
    (Gen.Query_ListBid ⟨aid, bidder, m⟩ (storeOf s)).2.1 = true := by
  rcases h with ⟨u, rfl, hu⟩ | rfl
  · simp [Gen.Query_ListBid, Go.optAccParse, hu]
  · cases bidder with
    | none => simp [Gen.Query_ListBid, Go.parseBoolStr]
    | some u =>
      cases hu : validAcc u <;> simp [Gen.Query_ListBid, Go.parseBoolStr, Go.optAccParse, hu]

theorem tie_Query_GetBid (s : Core) (aid bidId : Nat) :
    Gen.Query_GetBid ⟨aid, bidId⟩ (storeOf s) =
      (match queryBid s aid bidId with
       | some b => (some ⟨b⟩, false, storeOf s)
       | none => (none, true, storeOf s)) := by
  cases hv : s.views[aid]? with
  | none => simp [Gen.Query_GetBid, bidGet_storeOf, queryBid, rdBid, hv]
  | some v =>
    simp only [Gen.Query_GetBid, bidGet_storeOf, queryBid, rdBid_some hv, hv]
    cases h : v.bids.find? (·.id == bidId) <;> simp [h]

theorem tie_Query_ListAuction (s : Core) (st : Option Status) (ty : Option AType) :
    Gen.Query_ListAuction ⟨st.map StatusStr.is, ty.map ATypeStr.is⟩ (storeOf s) =
      (some ⟨queryAuctions s st ty⟩, false, storeOf s) := by
  rw [queryAuctions_eq]
  unfold Gen.Query_ListAuction
  -- The closure handed to the paginator computes `aucFilter` of the request: an absent filter
  -- passes every record; for a present one the record's field is the requested value or it is
  -- not, and either way both sides are closed boolean terms, whatever way the code combines
  -- the two tests.
  rw [paginate_filter _ _ _ (aucFilter st ty) (fun x => ?_) (fun _ => rfl)]
  · -- What is left are the guards that refuse malformed strings.  By cases on the request they
    -- are closed terms, whatever way the code spells them (a chain of ==, a switch, a helper
    -- that walks a table), and are evaluated.
    rcases st with _ | st <;> rcases ty with _ | ty <;> (try cases st) <;> (try cases ty) <;> rfl
  · rcases st with _ | st <;> rcases ty with _ | ty
    · simp [aucFilter]
    · by_cases h1 : x.type = ty <;> simp [aucFilter, h1]
    · by_cases h2 : x.status = st <;> simp [aucFilter, h2]
    · by_cases h1 : x.type = ty <;> by_cases h2 : x.status = st <;> simp [aucFilter, h1, h2]

theorem tie_Query_ListAuction_malformed (s : Core) (st : Option StatusStr) (ty : Option ATypeStr)
    (h : st = some StatusStr.junk ∨ ty = some ATypeStr.junk) :
    (Gen.Query_ListAuction ⟨st, ty⟩ (storeOf s)).1 = none ∧
    (Gen.Query_ListAuction ⟨st, ty⟩ (storeOf s)).2.1 = true := by
  -- by cases on the request: the guards are then closed boolean terms and are evaluated
  rcases h with rfl | rfl
  · rcases ty with _ | ty | _ <;> (try cases ty) <;> exact ⟨rfl, rfl⟩
  · rcases st with _ | st | _ <;> (try cases st) <;> exact ⟨rfl, rfl⟩

theorem tie_Query_GetAuction (s : Core) (aid : Nat) :
    Gen.Query_GetAuction ⟨aid⟩ (storeOf s) =
      (match queryAuction s aid with
       | some a => (some ⟨a⟩, false, storeOf s)
       | none => (none, true, storeOf s)) := by
  simp only [Gen.Query_GetAuction, auctionGet_storeOf, rdAuction, viewAt_nat, queryAuction]
  rcases s.views[aid]? with _ | v <;> simp

/-- (this and the next definition) what `ListAllowedBidder` / `ListVestingQueue` are documented to
    return: the records of the requested auction -/
def queryAllowedOf (s : Core) (aid : Nat) : List (Nat × Allowed) :=
  match s.views[aid]? with
  | some v => v.allowed.map (fun x => (v.a.id, x))
  | none => []

def queryVestingsOf (s : Core) (aid : Nat) : List VQ :=
  match s.views[aid]? with
  | some v => v.vqs
  | none => []

set_option linter.unusedSimpArgs false in -- the branch of `first` that does not apply
/-- `ListAllowedBidder`: EITHER what the code has now — every allowed bidder of every auction,
    whatever `auction_id` the request carries (C16's known finding: the translation shows the
    missing prefix, `GStore.allAllowed` instead of `GStore.allowedArgsOf st req.aid`) — OR, once
    that is repaired with a pair-prefix option, exactly the records of the requested auction.
    The proof below closes for both; which one holds is what the C16 monitor reports. -/
theorem tie_Query_ListAllowedBidder (s : Core) (aid : Nat) :
    (Gen.Query_ListAllowedBidder ⟨aid⟩ (storeOf s)).2.1 = false ∧
    (((Gen.Query_ListAllowedBidder ⟨aid⟩ (storeOf s)).1.map
        (fun r => r.allowed.map (fun x => (x.recAuction, ({ bidder := x.bidder, cap := x.cap } : Allowed))))) =
      some (queryAllowedAll s) ∨
     ((Gen.Query_ListAllowedBidder ⟨aid⟩ (storeOf s)).1.map
        (fun r => r.allowed.map (fun x => (x.recAuction, ({ bidder := x.bidder, cap := x.cap } : Allowed))))) =
      some (queryAllowedOf s aid)) := by
  simp only [Gen.Query_ListAllowedBidder]
  rw [paginate_true _ _ _ (fun _ => rfl) (fun _ => rfl)]
  simp only [Bool.false_eq_true, if_false, Option.map_some, true_and]
  first
  | (left
     simp only [allAllowed_storeOf, queryAllowedAll, List.map_flatMap, List.map_map]
     rfl)
  | (right
     simp only [GStore.allowedArgsOf, viewAt_storeOf, viewAt_nat, queryAllowedOf]
     cases s.views[aid]? with
     | none => rfl
     | some v => simp only [Option.map_some, Option.getD_some, List.map_map]; rfl)

theorem tie_Query_GetAllowedBidder (s : Core) (aid : Nat) (u : Acc) (hu : validAcc u = true) :
    (Gen.Query_GetAllowedBidder ⟨aid, u⟩ (storeOf s)).2.1 = (queryAllowedOne s aid u).isNone ∧
    ((Gen.Query_GetAllowedBidder ⟨aid, u⟩ (storeOf s)).1.map
        (fun r => ({ bidder := r.allowed.bidder, cap := r.allowed.cap } : Allowed))) = queryAllowedOne s aid u := by
  simp only [Gen.Query_GetAllowedBidder, hu, allowedGet_storeOf, queryAllowedOne, Bool.not_true,
    Bool.false_eq_true, if_false]
  cases s.views[aid]? with
  | none => simp
  | some v => cases h : lookupAllowed v.allowed u <;> simp [h]

theorem tie_Query_GetAllowedBidder_malformed (s : Core) (aid : Int) (u : Acc) (hu : validAcc u = false) :
    (Gen.Query_GetAllowedBidder ⟨aid, u⟩ (storeOf s)).1.isNone = true ∧
    (Gen.Query_GetAllowedBidder ⟨aid, u⟩ (storeOf s)).2.1 = true := by
  simp [Gen.Query_GetAllowedBidder, hu]

set_option linter.unusedSimpArgs false in -- the branch of `first` that does not apply
/-- `ListVestingQueue`: every queue of every auction (known finding), or — repaired — the
    queues of the requested auction -/
theorem tie_Query_ListVestingQueue (s : Core) (aid : Nat) :
    Gen.Query_ListVestingQueue ⟨aid⟩ (storeOf s) = (some ⟨queryVestingsAll s⟩, false, storeOf s) ∨
    Gen.Query_ListVestingQueue ⟨aid⟩ (storeOf s) = (some ⟨queryVestingsOf s aid⟩, false, storeOf s) := by
  simp only [Gen.Query_ListVestingQueue]
  rw [paginate_true _ _ _ (fun _ => rfl) (fun _ => rfl)]
  simp only [Bool.false_eq_true, if_false]
  first
  | (left
     simp only [allVqs_storeOf, queryVestingsAll]
     done)
  | (right
     simp only [GStore.vqsOf, viewAt_storeOf, viewAt_nat, queryVestingsOf]
     cases s.views[aid]? with
     | none => rfl
     | some v => rfl)

end Fundraising
