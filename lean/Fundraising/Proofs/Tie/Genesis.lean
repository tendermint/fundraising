import Fundraising.Generated.Code.Genesis
import Fundraising.Model.Genesis
import Fundraising.Proofs.Tie.Pure
import Fundraising.Proofs.Tie.PureSched
import Fundraising.Proofs.Tie.Msgs
/-
  Tie of the translated genesis validation (`GenesisState.Validate`, `Bid.Validate`,
  `VestingQueue.Validate` in types/genesis.go, `BaseAuction.Validate` in types/auction.go) to
  `validateGenesis` / `Auction.validate` of Model/Genesis.lean.

  The Go code detects duplicate collection keys with maps keyed by strings built from
  `fmt.Sprint` parts (`"<auction id>/<bidder>"`, …); the translation keeps the parts as a list of
  integers (the separators carry no data), the model compares the key tuples (`noDup`).
-/
namespace Fundraising
open Fundraising.Gen Fundraising.Go

/-- the model's genesis in the shape the Go code sees it (allowed bidders as complete records) -/
def toG (g : Genesis) : GenesisG :=
  { params := g.params, auctions := g.auctions,
    allowed := g.allowed.map (fun p => ⟨p.1, p.2.bidder, p.2.cap⟩),
    bids := g.bids, vqs := g.vqs }

theorem tie_Bid_Validate (b : Bid) :
    Gen.Bid_Validate b = !(validAcc b.bidder && decide (b.price > 0) && validCoin b.denom b.amt && decide (b.amt > 0)) := by
  unfold Gen.Bid_Validate
  grind

theorem tie_VestingQueue_Validate (q : VQ) :
    Gen.VestingQueue_Validate q = !(validAcc q.auctioneer && validCoin q.denom q.amt) := by
  unfold Gen.VestingQueue_Validate
  grind

/-- `BaseAuction.Validate` (the three reserve-address strings are functions of the id in the
    model, hence always well-formed; the schedule is validated against the FIRST end time) -/
theorem tie_BaseAuction_Validate (a : Auction) : Gen.BaseAuction_Validate a = !a.validate := by
  unfold Gen.BaseAuction_Validate Auction.validate
  simp only [tie_ValidateVestingSchedules]
  -- the three reserve-address strings are translated as account 0: parsing them never fails
  have h0 : validAcc (0 : Acc) = true := by decide
  cases ht : a.type <;> cases he : a.endTimes <;> simp [h0, Go.index] <;> grind

/-- what a duplicate-detecting loop accepts, `seen` being the keys met before -/
def ggood {α κ : Type} [DecidableEq κ] (mkey : α → κ) (bad : α → Bool) (seen : List κ) (l : List α) : Bool :=
  l.all (fun x => !seen.contains (mkey x)) && noDup (l.map mkey) && l.all (fun x => !bad x)

theorem ggood_cons {α κ : Type} [DecidableEq κ] (mkey : α → κ) (bad : α → Bool) (seen : List κ)
    (x : α) (xs : List α) :
    ggood mkey bad seen (x :: xs) =
      if seen.contains (mkey x) = true ∨ bad x = true then false else ggood mkey bad (mkey x :: seen) xs := by
  have h : xs.all (fun y => !(mkey x :: seen).contains (mkey y))
      = (!(xs.map mkey).contains (mkey x) && xs.all (fun y => !seen.contains (mkey y))) := by
    rw [Bool.eq_iff_iff]
    simp only [List.all_eq_true, Bool.and_eq_true, Bool.not_eq_true', List.contains_eq_mem,
      decide_eq_false_iff_not, List.mem_cons, List.mem_map, not_or, not_exists, not_and]
    constructor
    · intro h; exact ⟨fun y hy e => (h y hy).1 e, fun y hy => (h y hy).2⟩
    · intro h y hy; exact ⟨fun e => h.1 y hy e, h.2 y hy⟩
  simp only [ggood, List.all_cons, List.map_cons, noDup, h]
  cases List.contains seen (mkey x) <;> cases bad x <;> cases (List.map mkey xs).contains (mkey x) <;> simp

/-- a duplicate-detecting loop of `GenesisState.Validate`: ANY function with the two equations
    `h0`, `h1` (the translated loops have them by unfolding; `enc` is the string key, kept as its
    `fmt.Sprint` parts) ends normally iff no key was seen before or occurs twice and every element
    is valid, and otherwise returns the error -/
theorem dupLoop_spec {α κ κ' ν : Type} [DecidableEq κ] [DecidableEq κ']
    (f : List α → (κ → Option ν) → Loop Bool (κ → Option ν))
    (mkey : α → κ') (enc : κ' → κ) (inj : ∀ p q, enc p = enc q → p = q) (v : ν) (bad : α → Bool)
    (h0 : ∀ m, f [] m = Loop.done m)
    (h1 : ∀ x xs m, f (x :: xs) m =
      if (m (enc (mkey x))).isSome = true ∨ bad x = true then Loop.ret true
      else f xs (Go.mapSet m (enc (mkey x)) v))
    (l : List α) (m : κ → Option ν) (seen : List κ') (hm : ∀ p, (m (enc p)).isSome = seen.contains p) :
    ∃ m', f l m = if ggood mkey bad seen l = true then Loop.done m' else Loop.ret true := by
  induction l generalizing m seen with
  | nil => exact ⟨m, by simp [ggood, h0, noDup]⟩
  | cons x xs ih =>
    rw [ggood_cons, h1, hm]
    by_cases hx : seen.contains (mkey x) = true ∨ bad x = true
    · rw [if_pos hx, if_pos hx]
      exact ⟨m, rfl⟩
    · rw [if_neg hx, if_neg hx]
      refine ih _ _ fun p => ?_
      by_cases hp : p = mkey x
      · simp [hp, Go.mapSet]
      · have : ¬ enc p = enc (mkey x) := fun e => hp (inj _ _ e)
        simp [Go.mapSet, this, hp, hm]

theorem dupLoop_fresh {α κ κ' ν : Type} [DecidableEq κ] [DecidableEq κ']
    (f : List α → (κ → Option ν) → Loop Bool (κ → Option ν))
    (mkey : α → κ') (enc : κ' → κ) (inj : ∀ p q, enc p = enc q → p = q) (v : ν) (bad : α → Bool)
    (h0 : ∀ m, f [] m = Loop.done m)
    (h1 : ∀ x xs m, f (x :: xs) m =
      if (m (enc (mkey x))).isSome = true ∨ bad x = true then Loop.ret true
      else f xs (Go.mapSet m (enc (mkey x)) v))
    (l : List α) :
    ∃ m', f l (fun _ => none) =
      if (noDup (l.map mkey) && l.all (fun x => !bad x)) = true then Loop.done m' else Loop.ret true := by
  -- nothing has been seen before: the first conjunct of `ggood` is trivial
  simpa [ggood] using dupLoop_spec f mkey enc inj v bad h0 h1 l (fun _ => none) [] (by simp)

theorem tie_GenesisState_Validate (g : Genesis) :
    Gen.GenesisState_Validate (toG g) = !validateGenesis g := by
  unfold Gen.GenesisState_Validate validateGenesis
  simp only [toG, tie_Params_Validate]
  have inj1 : ∀ p q : Nat × Acc, [(p.1 : Int), (p.2 : Int)] = [(q.1 : Int), (q.2 : Int)] → p = q := by
    intro p q h; cases p; cases q
    simp only [List.cons.injEq, and_true] at h
    simp only [Prod.mk.injEq]; exact ⟨Int.ofNat.inj h.1, Int.ofNat.inj h.2⟩
  have inj2 : ∀ p q : Nat × Int, [(p.1 : Int), p.2] = [(q.1 : Int), q.2] → p = q := by
    intro p q h; cases p; cases q
    simp only [List.cons.injEq, and_true] at h
    simp only [Prod.mk.injEq]; exact ⟨Int.ofNat.inj h.1, h.2⟩
  have inj4 : ∀ p q : Nat, (p : Int) = (q : Int) → p = q := by
    intro p q h; omega
  obtain ⟨m1, e1⟩ := dupLoop_fresh GenesisState_Validate.loop1 (fun x : AllowedArg => (x.recAuction, x.bidder)) _ inj1 ()
    AllowedBidder_Validate (fun _ => rfl)
    (fun x _ _ => by
      simp only [GenesisState_Validate.loop1, Go.keyPart, KeyPart.part, List.append_nil, List.cons_append, List.nil_append]
      cases AllowedBidder_Validate x <;> simp)
    (g.allowed.map (fun p => (⟨p.1, p.2.bidder, p.2.cap⟩ : AllowedArg)))
  obtain ⟨m2, e2⟩ := dupLoop_fresh GenesisState_Validate.loop2 (fun x : VQ => (x.auction, x.release)) _ inj2 ()
    VestingQueue_Validate (fun _ => rfl)
    (fun x _ _ => by
      simp only [GenesisState_Validate.loop2, Go.keyPart, KeyPart.part, List.append_nil, List.cons_append, List.nil_append]
      cases VestingQueue_Validate x <;> simp) g.vqs
  obtain ⟨m3, e3⟩ := dupLoop_fresh GenesisState_Validate.loop3 (fun x : Bid => (x.auction, x.id)) _ inj1 true
    Bid_Validate (fun _ => rfl)
    (fun x _ _ => by
      simp only [GenesisState_Validate.loop3, Go.keyPart, KeyPart.part, List.append_nil, List.cons_append, List.nil_append]
      cases Bid_Validate x <;> simp) g.bids
  obtain ⟨m4, e4⟩ := dupLoop_fresh GenesisState_Validate.loop4 (fun x : Auction => x.id) _ inj4 true
    BaseAuction_Validate (fun _ => rfl)
    (fun x _ _ => by
      simp only [GenesisState_Validate.loop4]
      cases BaseAuction_Validate x <;> simp) g.auctions
  simp only [List.map_map, List.all_map, Function.comp_def, tie_AllowedBidder_Validate,
    tie_VestingQueue_Validate, tie_Bid_Validate, tie_BaseAuction_Validate, Bool.not_not] at e1 e2 e3 e4
  -- each loop is `done` or the error, by whether its list is accepted; the function returns the
  -- first error, the model's `validateGenesis` is the conjunction
  simp only [e1, e2, e3, e4]
  generalize noDup (List.map (fun x => (x.fst, x.snd.bidder)) g.allowed) = A1
  generalize (g.allowed.all fun x => validAcc x.snd.bidder && decide (x.snd.cap > 0)) = B1
  generalize noDup (List.map (fun x => (x.auction, x.release)) g.vqs) = A2
  generalize (g.vqs.all fun x => validAcc x.auctioneer && validCoin x.denom x.amt) = B2
  generalize noDup (List.map (fun x => (x.auction, x.id)) g.bids) = A3
  generalize (g.bids.all fun x =>
    validAcc x.bidder && decide (x.price > 0) && validCoin x.denom x.amt && decide (x.amt > 0)) = B3
  generalize noDup (List.map (fun x => x.id) g.auctions) = A4
  generalize (g.auctions.all fun x => x.validate) = B4
  cases h1 : (A1 && B1)
  · simp
  cases h2 : (A2 && B2)
  · simp [h2]
  cases h3 : (A3 && B3)
  · simp [h2, h3]
  cases h4 : (A4 && B4) <;> simp [h2, h3, h4]

end Fundraising
