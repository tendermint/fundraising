import Fundraising.Generated.Code.Import
import Fundraising.Proofs.Tie.Genesis
import Fundraising.Proofs.Tie.Store
import Fundraising.Proofs.GenesisProofs
/-
  Tie of the translated `InitGenesis` (module/genesis.go) to `initGenesis` of Model/Genesis.lean.

  `InitGenesis` reads back what it has just written (`k.Auction.Get` for every bid and vesting
  queue, the per-auction bid sequence), so it is translated STORE-THREADED: the collections API is
  interpreted on an explicit store value (`GStore`, Tables/GoStore.lean) that the generated code
  passes along; no oracle parameters.

  The model's import is three `foldlM (modifyView …)` over the lists of the genesis and a last pass
  (`fix`: `MatchedBidsLen` counted from the flags).  Each loop of the code is shown to be such a
  fold on the views of the store (`storeLoop_spec`; `InitGenesis_loop3_fold` for the bids, whose loop carries
  a map and keeps `MatchedBidsLen` as it goes: `goBid`), and the last pass is moved through the
  folds (`foldlM_modifyView_map` of Proofs/GenesisProofs.lean, `goBid_fix`).
-/
namespace Fundraising
open Fundraising.Gen Fundraising.Go

namespace ImportTie

/-- the final pass of the model's `initGenesis` on one view -/
def fix (v : AView) : AView :=
  if v.a.type = .batch then { v with matchedLen := countMatched v.bids } else v

theorem modify_eq (s : GStore) (aid : Int) (f : AView → AView) :
    s.modify aid f = match modifyView s.views aid.toNat f with
      | some vs => { s with views := vs }
      | none => s := by
  unfold GStore.modify modifyView
  cases s.views[aid.toNat]? <;> rfl

/-- the final pass is `genFinish` of Proofs/GenesisProofs.lean, whose `initGenesis_eq` names the
    three per-record updates (`genSetAllowed`, `genAppendBid`, `genSetVQ`) -/
theorem genFinish_eq_fix : genFinish = fix := rfl

/-! ### a loop of the code over one list of the genesis -/

/-- a loop that writes one record per element into the view of the auction the record names
    (`tgt`), for ANY function with these equations (`ok`: what validation has established of the
    elements): it is the model's `foldlM (modifyView …)` on the views of the store; where that
    fails (no such auction) a loop that checks for the auction returns an error -/
theorem storeLoop_spec {α : Type} (f : List α → GStore → Loop (Bool × GStore) GStore)
    (tgt : α → Nat) (upd : α → AView → AView) (ok : α → Prop)
    (h0 : ∀ st, f [] st = Loop.done st)
    (hsome : ∀ x xs st v, ok x → st.views[tgt x]? = some v →
      f (x :: xs) st = f xs { st with views := st.views.set (tgt x) (upd x v) })
    (l : List α) (hok : ∀ x ∈ l, ok x) (st : GStore) :
    match l.foldlM (fun vs x => modifyView vs (tgt x) (upd x)) st.views with
    | none => (∀ x xs st, st.views[tgt x]? = none → ∃ st', f (x :: xs) st = Loop.ret (true, st')) →
        ∃ st', f l st = Loop.ret (true, st')
    | some vs' => f l st = Loop.done { st with views := vs' } := by
  induction l generalizing st with
  | nil => simp [h0]
  | cons x xs ih =>
    cases hv : st.views[tgt x]? with
    | none =>
      simp only [List.foldlM_cons, modifyView, hv]
      exact fun hnone => hnone x xs st hv
    | some v =>
      simp only [List.foldlM_cons, modifyView, hv, hsome x xs st v (hok x (by simp)) hv]
      exact ih (fun y hy => hok y (by simp [hy])) { st with views := st.views.set (tgt x) (upd x v) }

theorem InitGenesis_loop1_eq (l : List Auction) : ∀ (st : GStore), st.views.length = st.seq →
    InitGenesis.loop1 l st = Loop.done { st with
      seq := st.seq + l.length,
      views := st.views ++ (l.zipIdx st.seq).map (fun p => ({ a := { p.1 with id := p.2 } } : AView)) } := by
  induction l with
  | nil => intro st _; simp [InitGenesis.loop1]
  | cons a rest ih =>
    intro st h
    have hs : GStore.auctionSet (GStore.seqNext st).2 (GStore.seqNext st).1
          { a with id := ((GStore.seqNext st).1).toNat }
        = { st with seq := st.seq + 1, views := st.views ++ [({ a := { a with id := st.seq } } : AView)] } := by
      simp [GStore.auctionSet, GStore.seqNext, h]
    simp only [InitGenesis.loop1, hs]
    rw [ih _ (by simp [h])]
    simp [List.zipIdx_cons, Nat.add_comm, Nat.add_left_comm]

/-! ### the bids -/

/-- what the Go loop does to the view of its auction for one bid: the next bid id, the bid filed
    under it and, for a matched bid of a batch auction, `MatchedBidsLen` one up -/
def goBid (b : Bid) (v : AView) : AView :=
  if v.a.type = .batch ∧ b.matched = true then { genAppendBid b v with matchedLen := v.matchedLen + 1 }
  else genAppendBid b v

theorem countMatched_append (l : List Bid) (b : Bid) :
    countMatched (l ++ [b]) = countMatched l + (if b.matched then 1 else 0) := by
  unfold countMatched
  cases h : b.matched <;> simp [List.filter_append, h]

/-- the model counts the matched bids in a last pass (`fix`), the code as it goes -/
theorem goBid_fix (b : Bid) (v : AView) : goBid b (fix v) = fix (genAppendBid b v) := by
  by_cases ht : v.a.type = .batch <;> cases hb : b.matched <;>
    simp [goBid, fix, genAppendBid, ht, hb, countMatched_append]

/-- what the loop over the bids keeps true of the store and its map `matchedBidsLen`: bid ids
    stay below the auction's sequence (so `Bid.Set` under the next id appends), and the map holds
    the stored `MatchedBidsLen` of every batch auction -/
def InvG (m : Int → Option Int) (vs : List AView) : Prop :=
  ∀ (i : Nat) (v : AView), vs[i]? = some v →
    (∀ b ∈ v.bids, b.id ≤ v.bidSeq) ∧ (v.a.type = .batch → (m (i : Int)).getD 0 = v.matchedLen)

/-- the store writes of one round: next bid id and `Bid.Set` -/
theorem bidWrites (p : Params) (n : Nat) (vs : List AView) (k : Nat) (v : AView) (b : Bid) (anyid : Int)
    (h : vs[k]? = some v) (hfresh : ∀ x ∈ v.bids, x.id ≤ v.bidSeq) :
    GStore.bidSet (GStore.nextBidId ⟨p, n, vs⟩ (k : Int)).2 (k : Int) anyid
        { b with id := ((GStore.nextBidId ⟨p, n, vs⟩ (k : Int)).1).toNat }
      = ⟨p, n, vs.set k (genAppendBid b v)⟩ := by
  have h1 : GStore.nextBidId ⟨p, n, vs⟩ (k : Int)
      = (((v.bidSeq + 1 : Nat) : Int), ⟨p, n, vs.set k ({ v with bidSeq := v.bidSeq + 1 })⟩) := by
    simp [GStore.nextBidId, h, GStore.modify_some (st := ⟨p, n, vs⟩) _ h]
  rw [h1, GStore.bidSet, GStore.modify_some _ (getElem?_set_of_get h)]
  simp only [Int.toNat_natCast, List.set_set, genAppendBid]
  rw [Go.setBid_fresh _ _ (fun x hx => by have := hfresh x hx; simp only; omega)]

@[simp] theorem goBid_a (b : Bid) (v : AView) : (goBid b v).a = v.a := by unfold goBid; split <;> rfl
@[simp] theorem goBid_bids (b : Bid) (v : AView) :
    (goBid b v).bids = v.bids ++ [{ b with id := v.bidSeq + 1 }] := by unfold goBid; split <;> rfl
@[simp] theorem goBid_bidSeq (b : Bid) (v : AView) : (goBid b v).bidSeq = v.bidSeq + 1 := by
  unfold goBid; split <;> rfl

theorem InvG_set {m m' : Int → Option Int} {vs : List AView} {k : Nat} {v : AView} {b : Bid}
    (hget : vs[k]? = some v) (hI : InvG m vs)
    (hm : ∀ i : Nat, i ≠ k → m' (i : Int) = m (i : Int))
    (hk : v.a.type = .batch → (m' (k : Int)).getD 0 = (goBid b v).matchedLen) :
    InvG m' (vs.set k (goBid b v)) := by
  intro i w hw
  by_cases hik : i = k
  · subst hik
    rw [getElem?_set_of_get hget] at hw
    cases hw
    refine ⟨fun x hx => ?_, by simpa using hk⟩
    simp only [goBid_bids, goBid_bidSeq, List.mem_append, List.mem_singleton] at hx ⊢
    rcases hx with hx | rfl
    · have := (hI i v hget).1 x hx; omega
    · simp
  · rw [List.getElem?_set_ne (Ne.symm hik)] at hw
    have h0 := hI i w hw
    exact ⟨h0.1, fun ht => by rw [hm i hik]; exact h0.2 ht⟩

theorem InitGenesis_loop3_step (b : Bid) (rest : List Bid) (m : Int → Option Int) (st : GStore) (v : AView)
    (hget : st.views[b.auction]? = some v) (hI : InvG m st.views) :
    ∃ m', InvG m' (st.views.set b.auction (goBid b v)) ∧
      InitGenesis.loop3 (b :: rest) m st =
        InitGenesis.loop3 rest m' { st with views := st.views.set b.auction (goBid b v) } := by
  have h0 := hI _ v hget
  by_cases hc : v.a.type = .batch ∧ b.matched = true
  · refine ⟨Go.mapSet m (b.auction : Int) ((m (b.auction : Int)).getD 0 + 1), InvG_set hget hI
      (fun i hik => by simp [Go.mapSet, show ¬ ((i : Int) = (b.auction : Int)) by omega])
      (fun ht => by simp [Go.mapSet, goBid, hc, h0.2 ht]), ?_⟩
    have hc' : (decide (v.a.type = AType.batch) && b.matched) = true := by simp [hc]
    have hn : (Go.mapSet m (b.auction : Int) ((m (b.auction : Int)).getD 0 + 1) (b.auction : Int)).getD 0
        = v.matchedLen + 1 := by simp [Go.mapSet, h0.2 hc.1]
    rw [InitGenesis.loop3]
    simp only [GStore.auctionGet, Int.toNat_natCast, hget, hc', Bool.not_false, Bool.true_and,
      Bool.false_eq_true, if_false, if_true, GStore.matchedLenSet, GStore.modify_some _ hget, hn]
    rw [bidWrites _ _ _ _ { v with matchedLen := v.matchedLen + 1 } b _ (getElem?_set_of_get hget) h0.1]
    simp [goBid, hc, genAppendBid]
  · refine ⟨m, InvG_set hget hI (fun _ _ => rfl) (fun ht => by simp [goBid, hc, genAppendBid, h0.2 ht]), ?_⟩
    have hc' : (decide (v.a.type = AType.batch) && b.matched) = false := by
      cases hb : b.matched <;> simp_all
    rw [InitGenesis.loop3]
    simp only [GStore.auctionGet, Int.toNat_natCast, hget, hc', Bool.not_false, Bool.true_and,
      Bool.false_eq_true, if_false]
    rw [bidWrites _ _ _ _ _ b _ hget h0.1]
    simp [goBid, hc]

theorem InitGenesis_loop3_fold (l : List Bid) (m : Int → Option Int) (st : GStore) (hI : InvG m st.views) :
    match l.foldlM (fun vs b => modifyView vs b.auction (goBid b)) st.views with
    | none => ∃ st', InitGenesis.loop3 l m st = Loop.ret (true, st')
    | some vs' => ∃ m', InitGenesis.loop3 l m st = Loop.done (m', { st with views := vs' }) := by
  induction l generalizing m st with
  | nil => simp [InitGenesis.loop3]
  | cons b rest ih =>
    cases hget : st.views[b.auction]? with
    | none =>
      simp only [List.foldlM_cons, modifyView, hget]
      exact ⟨st, by simp [InitGenesis.loop3, GStore.auctionGet, hget]⟩
    | some v =>
      obtain ⟨m', hI', hgo⟩ := InitGenesis_loop3_step b rest m st v hget hI
      simp only [List.foldlM_cons, modifyView, hget, hgo]
      exact ih m' { st with views := st.views.set b.auction (goBid b v) } hI'

/-- what every view is until the bids are imported: `fix` leaves such a view alone, and `InvG` holds
    of it with the empty `matchedBidsLen` map -/
def Fresh (v : AView) : Prop := v.bids = [] ∧ v.matchedLen = 0

theorem fix_fresh {v : AView} (h : Fresh v) : fix v = v := by
  rcases v with ⟨a, al, b, q, ml, bs⟩
  obtain ⟨rfl, rfl⟩ := h
  unfold fix; split <;> rfl

@[simp] theorem fix_allowed (v : AView) : (fix v).allowed = v.allowed := by unfold fix; split <;> rfl

theorem genSetVQ_fix (q : VQ) (v : AView) : genSetVQ q (fix v) = fix (genSetVQ q v) := by
  unfold fix genSetVQ; split <;> rfl

/-- `InitGenesis` replaces an empty fee list by the default, which is the empty list.  The
    statement follows the printed form of the two tests (`if len(fee) == 0 { fee = default }` on the
    pair of genesis and store); the refactorings C-4 and D-4 of module/genesis.go (rows of DESIGN.md §12) print them alike. -/
theorem norm_fees (G : GenesisG) (st : GStore) :
    (if (decide ((G.params.creationFee.length : Int) = (0 : Int))) then
      (({ G with params := ({ G.params with creationFee := (default : (List Coin)) }) } : GenesisG), st) else (G, st))
      = (G, st) ∧
    (if (decide ((G.params.bidFee.length : Int) = (0 : Int))) then
      (({ G with params := ({ G.params with bidFee := (default : (List Coin)) }) } : GenesisG), st) else (G, st))
      = (G, st) := by
  rcases G with ⟨⟨cf, bf, x⟩, a, al, b, q⟩
  constructor
  · cases cf
    · rfl
    · simp; omega
  · cases bf
    · rfl
    · simp; omega

/-! ### a loop leaves early only with an error

  (`Loop.ret r` always carries `r.1 = true`; this is what makes "return the loop's result at once"
  and "hand `(err, store)` to a caller that goes on iff `err` is false" the same function) -/

theorem loop1_ret (l : List Auction) : ∀ (st : GStore) (r : Bool × GStore),
    InitGenesis.loop1 l st = Loop.ret r → r.1 = true := by
  induction l with
  | nil => intro st r h; simp [InitGenesis.loop1] at h
  | cons a rest ih =>
    intro st r h
    rw [InitGenesis.loop1] at h
    exact ih _ _ h

theorem loop2_ret (l : List AllowedArg) : ∀ (st : GStore) (r : Bool × GStore),
    InitGenesis.loop2 l st = Loop.ret r → r.1 = true := by
  induction l with
  | nil => intro st r h; simp [InitGenesis.loop2] at h
  | cons a rest ih =>
    intro st r h
    rw [InitGenesis.loop2] at h
    simp only at h
    split at h
    · rename_i he
      cases h
      simpa using he
    · exact ih _ _ h

theorem loop3_ret (l : List Bid) : ∀ (m : Int → Option Int) (st : GStore) (r : Bool × GStore),
    InitGenesis.loop3 l m st = Loop.ret r → r.1 = true := by
  induction l with
  | nil => intro m st r h; simp [InitGenesis.loop3] at h
  | cons a rest ih =>
    intro m st r h
    rw [InitGenesis.loop3] at h
    simp only at h
    split at h
    · cases h; rfl
    · split at h
      · exact ih _ _ _ h
      · exact ih _ _ _ h

theorem loop4_ret (l : List VQ) : ∀ (st : GStore) (r : Bool × GStore),
    InitGenesis.loop4 l st = Loop.ret r → r.1 = true := by
  induction l with
  | nil => intro st r h; simp [InitGenesis.loop4] at h
  | cons a rest ih =>
    intro st r h
    rw [InitGenesis.loop4] at h
    simp only at h
    split at h
    · cases h; rfl
    · exact ih _ _ h

end ImportTie
open ImportTie

/-- `InitGenesis` into the empty store: it fails exactly when the model's import fails, and
    otherwise leaves exactly the model's views, the imported parameters, and an auction sequence
    equal to the number of auctions (so the next auction gets a fresh id).
    `hA`: every allowed-bidder record names an existing auction (Go would store an orphan; no
    exported genesis of a reachable state contains one); `hAv`: `GenesisState.Validate` has
    accepted the bidder addresses. -/
theorem tie_InitGenesis (g : Genesis)
    (hA : ∀ p ∈ g.allowed, p.1 < g.auctions.length)
    (hAv : ∀ p ∈ g.allowed, validAcc p.2.bidder = true) :
    match initGenesis g with
    | none => (Gen.InitGenesis (toG g) {}).1 = true
    | some views =>
      Gen.InitGenesis (toG g) {} = (false, { params := g.params, seq := g.auctions.length, views := views }) := by
  rw [initGenesis_eq, genFinish_eq_fix]
  -- the auctions: the views with the ids of the sequence, all fresh
  have h1 := InitGenesis_loop1_eq g.auctions {} rfl
  simp only [List.nil_append, Nat.zero_add] at h1
  generalize hvs0 : g.auctions.zipIdx.map (fun p => ({ a := { p.1 with id := p.2 } } : AView)) = vs0 at h1 ⊢
  have hlen : vs0.length = g.auctions.length := by simp [← hvs0]
  have hF0 : ∀ v ∈ vs0, Fresh v := by
    subst hvs0; intro v hv
    obtain ⟨p, _, rfl⟩ := List.mem_map.mp hv
    exact ⟨rfl, rfl⟩
  -- the allowed bidders: the model's fold; it does not fail (`hA`), the views stay fresh
  obtain ⟨vs1, hf1⟩ := foldlM_modifyView_some (fun p : Nat × Allowed => p.1) genSetAllowed g.allowed vs0
    (by simpa [hlen] using hA)
  have hF1 := foldlM_modifyView_all Fresh _ genSetAllowed (fun _ _ h => h) g.allowed hF0 hf1
  have h2 := storeLoop_spec InitGenesis.loop2 (fun x => x.recAuction)
    (fun x => genSetAllowed (x.recAuction, ⟨x.bidder, x.cap⟩)) (fun x => validAcc x.bidder = true)
    (fun _ => rfl)
    (fun x xs st v hx hv => by simp [InitGenesis.loop2, hx, GStore.allowedSet, GStore.modify_some _ hv, genSetAllowed])
    (g.allowed.map (fun p => (⟨p.1, p.2.bidder, p.2.cap⟩ : AllowedArg)))
    (fun x hx => by obtain ⟨p, hp, rfl⟩ := List.mem_map.mp hx; exact hAv p hp)
    ⟨Params.default, g.auctions.length, vs0⟩
  simp only [List.foldlM_map, hf1] at h2
  -- the bids: the code keeps `MatchedBidsLen` as it goes, the model counts at the end
  have h3 := InitGenesis_loop3_fold g.bids (fun _ => none) ⟨Params.default, g.auctions.length, vs1⟩
    (fun i v hv => by
      obtain ⟨hb, hm⟩ := hF1 v (List.mem_of_getElem? hv)
      exact ⟨by simp [hb], fun _ => by simp [hm]⟩)
  have hfix : vs1 = vs1.map fix := by
    rw [List.map_congr_left (fun v hv => fix_fresh (hF1 v hv)), List.map_id']
  simp only [] at h3
  rw [hfix, foldlM_modifyView_map fix _ genAppendBid goBid goBid_fix, ← hfix] at h3
  -- unfolded only now, with the result of every loop known: whether the code runs the loops in
  -- line or through helpers that return `(err, store)` then makes no difference
  unfold Gen.InitGenesis
  simp only [(norm_fees (toG g) {}).1, (norm_fees (toG g) {}).2, hf1, Option.bind]
  cases hf2 : g.bids.foldlM (fun vs b => modifyView vs b.auction (genAppendBid b)) vs1 with
  | none =>
    rw [hf2] at h3
    obtain ⟨st', h3⟩ := h3
    simp [toG, h1, h2, h3]
  | some vs2 =>
    rw [hf2] at h3
    obtain ⟨m', h3⟩ := h3
    have h4 := storeLoop_spec InitGenesis.loop4 (fun q => q.auction) genSetVQ (fun _ => True) (fun _ => rfl)
      (fun q xs st v _ hv => by
        simp [InitGenesis.loop4, GStore.auctionGet, hv, GStore.vqSet, GStore.modify_some _ hv, genSetVQ])
      g.vqs (fun _ _ => trivial) ⟨Params.default, g.auctions.length, vs2.map fix⟩
    simp only [] at h4
    rw [foldlM_modifyView_map fix _ genSetVQ genSetVQ genSetVQ_fix] at h4
    cases hf3 : g.vqs.foldlM (fun vs q => modifyView vs q.auction (genSetVQ q)) vs2 with
    | none =>
      rw [hf3] at h4
      obtain ⟨st', h4⟩ := h4 (fun q xs st hv => ⟨st, by simp [InitGenesis.loop4, GStore.auctionGet, hv]⟩)
      simp [toG, h1, h2, h3, h4, hf3]
    | some vs3 =>
      rw [hf3] at h4
      simp [toG, h1, h2, h3, show InitGenesis.loop4 g.vqs _ = _ from h4, hf3, GStore.paramsSet]

end Fundraising
