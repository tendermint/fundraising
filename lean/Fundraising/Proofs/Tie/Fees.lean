import Fundraising.Generated.Code.Fees
import Fundraising.Tables.GoRun
/-
  The four keeper functions through which a MESSAGE moves coins (keeper/keeper.go).  The handler
  units record a call of one of them as a single effect (`payCreationFee`, `payPlaceBidFee`,
  `reserveSellingCoin`, `reservePayingCoin`); what the interpreter does for that effect is, by the
  theorems below, the interpretation of the bank / distribution calls the translated function
  makes: the fee named by the CURRENT parameters goes from the payer to the community pool; the
  reserved coin goes from the account to the selling / paying reserve of THAT auction.  Each
  function records exactly one call (`runEffs_one`), and the interpreter does for it, by
  evaluation, what it does for the effect of the function's name.
-/
namespace Fundraising
open Fundraising.Gen Fundraising.Go

theorem tie_PayCreationFee (c : Ctx) (v : AView) (u : Acc) :
    (Gen.PayCreationFee u c.s.params).1 = false ∧
    applyEff ⟨.payCreationFee, [.nat u]⟩ c v = runEffs (Gen.PayCreationFee u c.s.params).2 c v :=
  ⟨rfl, (runEffs_one _ c v).symm⟩

theorem tie_PayPlaceBidFee (c : Ctx) (v : AView) (u : Acc) :
    (Gen.PayPlaceBidFee u c.s.params).1 = false ∧
    applyEff ⟨.payPlaceBidFee, [.nat u]⟩ c v = runEffs (Gen.PayPlaceBidFee u c.s.params).2 c v :=
  ⟨rfl, (runEffs_one _ c v).symm⟩

theorem tie_ReserveSellingCoin (c : Ctx) (v : AView) (a : Nat) (u : Acc) (cn : Coin) :
    (Gen.ReserveSellingCoin (a : Int) u cn).1 = false ∧
    applyEff ⟨.reserveSellingCoin, [.int a, .nat u, .coin cn]⟩ c v = runEffs (Gen.ReserveSellingCoin (a : Int) u cn).2 c v :=
  ⟨rfl, (runEffs_one _ c v).symm⟩

theorem tie_ReservePayingCoin (c : Ctx) (v : AView) (a : Nat) (u : Acc) (cn : Coin) :
    (Gen.ReservePayingCoin (a : Int) u cn).1 = false ∧
    applyEff ⟨.reservePayingCoin, [.int a, .nat u, .coin cn]⟩ c v = runEffs (Gen.ReservePayingCoin (a : Int) u cn).2 c v :=
  ⟨rfl, (runEffs_one _ c v).symm⟩

end Fundraising
