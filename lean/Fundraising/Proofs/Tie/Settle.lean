import Fundraising.Generated.Code.Settle
import Fundraising.Tables.GoRun
import Fundraising.Proofs.Tie.Pure
import Fundraising.Proofs.OpsBlock
/-
  Tie of the translated block-processing functions (keeper/abci.go, execution.go, the
  settlement half of auction.go) to `blockStep`, `closeFixed`, `closeBatch`, `extendRound`,
  `refundRemainingSellingCoin` of Model/Block.lean.  A recorded call of another keeper function
  is interpreted by the model's function of that name (`Go.applySettle`), which has its own tie
  theorem here or in Proofs/Tie/Vesting.lean, Payout.lean, BatchAlloc.lean.
-/
namespace Fundraising
open Fundraising.Gen Fundraising.Go

/-- which executor `BeginBlocker` calls for an auction -/
def dispatchEff (a : Auction) : Option GEff :=
  match a.status with
  | .standby => some ⟨.execStandBy, [.auction a]⟩
  | .started => some ⟨.execStarted, [.auction a]⟩
  | .vesting => some ⟨.execVesting, [.auction a]⟩
  | .finished => none
  | .cancelled => none

private theorem BeginBlocker_loop1_dispatch (auctions : List Auction) (effs : List GEff) :
    Gen.BeginBlocker.loop1 auctions false effs = Loop.done (false, effs ++ auctions.filterMap dispatchEff) := by
  induction auctions generalizing effs with
  | nil => simp [BeginBlocker.loop1]
  | cons a rest ih =>
    unfold BeginBlocker.loop1
    cases hs : a.status <;> simp [ih, dispatchEff, hs]

/-- `BeginBlocker`: every auction, in store order, dispatched on its status; never an error
    of its own (the five statuses are all there are) -/
theorem tie_BeginBlocker (auctions : List Auction) :
    Gen.BeginBlocker auctions = (false, auctions.filterMap dispatchEff) := by
  simp [BeginBlocker, BeginBlocker_loop1_dispatch]

/-- `Except.ok_bind`, `Except.error_bind` for `M`; the proofs of this file go through without them -/
@[simp] private theorem ok_bind {α β : Type} (a : α) (f : α → M β) : ((Except.ok a : M α) >>= f) = f a := rfl

@[simp] private theorem error_bind {α β : Type} (e : Fail) (f : α → M β) :
    ((Except.error e : M α) >>= f) = Except.error e := rfl

private theorem runSettle_calcBatch (c : Ctx) (aid : Nat) (v : AView) (hv : c.s.views[aid]? = some v)
    (mi : MInfo) (hmi : calcBatch v.a v.bids v.allowed = some mi) (a : Auction) (es : List GEff) :
    runSettle aid (⟨.calcBatch, [.auction a]⟩ :: es) c =
      runSettle aid es (c.setView aid { v with bids := v.bids.map (fun b => { b with matched := mi.matchedIds.contains b.id }), matchedLen := mi.matchedLen }) := by
  simp only [runSettle_cons, applySettle, view_of hv, pure_bind, hmi]

/-- `ExecuteStandByStatus` and `ExecuteStartedStatus` (keeper/execution.go) are `blockStep` on an auction of
    their status.  `hid`: this one writes the record itself, under `auction.GetId()`, and `Go.applySettle` runs
    an `Auction.Set` only under the key of the auction concerned; the other one only calls the closing
    functions, which are handed the record and write nothing here. -/
theorem tie_ExecuteStandByStatus (c : Ctx) (aid : Nat) (v : AView) (hv : c.s.views[aid]? = some v)
    (hst : v.a.status = .standby) (hid : v.a.id = aid) :
    blockStep c aid = Go.runSettlePlan c aid (Gen.ExecuteStandByStatus v.a c.s.now) := by
  unfold blockStep ExecuteStandByStatus
  simp only [view_of hv, pure_bind, tie_ShouldAuctionStarted, hst]
  by_cases h : v.a.startTime ≤ c.s.now <;>
    simp [h, hid, runSettlePlan_false, applySettle, view_of hv]

/-- `hne`: Go reads `EndTimes[len-1]`; a stored auction has an end time (`AuctionWF.endNonempty`) -/
theorem tie_ExecuteStartedStatus (c : Ctx) (aid : Nat) (v : AView) (hv : c.s.views[aid]? = some v)
    (hst : v.a.status = .started) (hne : v.a.endTimes ≠ []) :
    blockStep c aid = Go.runSettlePlan c aid (Gen.ExecuteStartedStatus v.a c.s.now) := by
  unfold blockStep ExecuteStartedStatus
  simp only [view_of hv, pure_bind, tie_ShouldAuctionClosed _ _ hne, hst, Auction.lastEnd]
  obtain ⟨e, he⟩ : ∃ e, v.a.endTimes.getLast? = some e := by
    cases hl : v.a.endTimes.getLast? with
    | none => simp at hl; exact absurd hl hne
    | some e => exact ⟨e, rfl⟩
  simp only [he, Option.getD_some]
  by_cases h : e ≤ c.s.now <;> cases hty : v.a.type <;> simp [h, runSettlePlan, applySettle]

/-- the model's dispatch for the vesting status.  `ExecuteVestingStatus` is not translated (it only calls
    `ReleaseVestingPayingCoin`): `translatedExec` runs `Gen.ReleaseVestingPayingCoin` for it. -/
theorem tie_ExecuteVestingStatus (c : Ctx) (aid : Nat) (v : AView) (hv : c.s.views[aid]? = some v)
    (hst : v.a.status = .vesting) :
    blockStep c aid = releaseVesting c aid := by
  unfold blockStep
  simp only [view_of hv, pure_bind, hst]

theorem tie_blockStep_terminal (c : Ctx) (aid : Nat) (v : AView) (hv : c.s.views[aid]? = some v)
    (hst : v.a.status = .finished ∨ v.a.status = .cancelled) :
    blockStep c aid = pure c ∧ dispatchEff v.a = none := by
  unfold blockStep dispatchEff
  rcases hst with hst | hst <;> simp only [view_of hv, pure_bind, hst, and_self]

theorem tie_publishedMatchedPrice (mi : MInfo) :
    Gen.publishedMatchedPrice mi = if mi.total > 0 then mi.price else 0 := by
  unfold publishedMatchedPrice
  grind

/-- `CloseFixedPriceAuction`, handed `calcFixed`: what `CalculateFixedPriceAllocation` returns
    (`tie_CalculateFixedPriceAllocation`, Proofs/Tie/Match.lean) -/
theorem tie_CloseFixedPriceAuction (c : Ctx) (aid : Nat) (v : AView) (hv : c.s.views[aid]? = some v) :
    closeFixed c aid = Go.runSettlePlan c aid (Gen.CloseFixedPriceAuction v.a (calcFixed v.a v.bids)) := by
  unfold closeFixed CloseFixedPriceAuction
  simp only [view_of hv, runSettlePlan_false, List.nil_append, List.cons_append, runSettle_cons, runSettle_nil,
    applySettle, pure_bind, bind_pure]
  refine bind_congr_ok fun c1 h1 => ?_
  refine bind_congr_ok fun c2 h2 => ?_
  have hv2 : c2.s.views[aid]? = some v := by
    rw [(refundRemainingSellingCoin_ok h2).2.1, (allocateSellingCoin_ok h1).2.1]; exact hv
  simp only [view_of hv2, pure_bind, setView_self hv2]

/-- the settling steps shared by two branches of `CloseBatchAuction` -/
def settlePlan (a : Auction) (mi : MInfo) : List GEff :=
  [⟨.allocateSellingCoin, [.auction a, .minfo mi]⟩, ⟨.refundRemainingSellingCoin, [.auction a]⟩,
   ⟨.refundPayingCoin, [.auction a, .minfo mi]⟩,
   ⟨.applyVestingSchedules, [.auction { a with matchedPrice := publishedMatchedPrice mi }]⟩]

private theorem settleBatch_eq_plan (c : Ctx) (aid : Nat) (v : AView) (hv : c.s.views[aid]? = some v) (mi : MInfo) :
    settleBatch c aid mi = runSettle aid (settlePlan v.a mi) c := by
  unfold settleBatch settlePlan
  simp only [view_of hv, runSettle_cons, runSettle_nil, applySettle, pure_bind, bind_pure,
    tie_publishedMatchedPrice]
  -- (not `cases … with | error e => rfl`: the kernel then compares the two continuations by
  -- unfolding them, which is very slow)
  refine bind_congr_ok fun c1 h1 => ?_
  refine bind_congr_ok fun c2 h2 => ?_
  refine bind_congr_ok fun c3 h3 => ?_
  have hv3 : c3.s.views[aid]? = some v := by
    rw [(payOut_ok h3).2.1, (refundRemainingSellingCoin_ok h2).2.1, (allocateSellingCoin_ok h1).2.1]
    exact hv
  simp only [view_of hv3, pure_bind]

/-- the plan of `closeBatch`: the allocation is computed, then the round is extended or the auction settled -/
def closeBatchPlan (v : AView) (mi : MInfo) : List GEff :=
  ⟨.calcBatch, [.auction v.a]⟩ ::
    (if v.a.maxExt + 1 = v.a.endTimes.length then settlePlan v.a mi
     else if v.matchedLen = 0 then [⟨.extendRound, [.auction v.a]⟩]
     else if shouldExtend mi.matchedLen v.matchedLen v.a.rate then [⟨.extendRound, [.auction v.a]⟩]
     else settlePlan v.a mi)

theorem closeBatch_eq_plan (c : Ctx) (aid : Nat) (v : AView) (hv : c.s.views[aid]? = some v)
    (mi : MInfo) (hmi : calcBatch v.a v.bids v.allowed = some mi) :
    closeBatch c aid = runSettle aid (closeBatchPlan v mi) c := by
  unfold closeBatch closeBatchPlan
  simp only [view_of hv, hmi, pure_bind]
  rw [runSettle_calcBatch c aid v hv mi hmi]
  simp only [runSettle_ite, settleBatch_eq_plan _ aid _ (view_setView hv) mi, runSettle_cons, runSettle_nil, applySettle,
    bind_pure]

/-- `CloseBatchAuction`: the round limit, the "nothing to compare with" case and the
    anti-sniping rule `1 − Quo(curr, last) ≥ rate`, each followed by the same settling steps.
    `hty`: the Go function asserts the batch type and refuses otherwise; the model's `closeBatch` has no such
    test, `blockStep` calls it for batch auctions only.  `hmi`: `mi` is the model's `calcBatch`, which is what
    `CalculateBatchAllocation` returns
    (Proofs/Tie/BatchAlloc.lean). -/
theorem tie_CloseBatchAuction (c : Ctx) (aid : Nat) (v : AView) (hv : c.s.views[aid]? = some v)
    (hty : v.a.type = .batch) (mi : MInfo) (hmi : calcBatch v.a v.bids v.allowed = some mi) (hid : v.a.id = aid) :
    closeBatch c aid = Go.runSettlePlan c aid (Gen.CloseBatchAuction v.a (rdMatchedLen c.s) mi) := by
  subst hid
  rw [closeBatch_eq_plan c _ v hv mi hmi, ← runSettlePlan_false]
  congr 1
  unfold Gen.CloseBatchAuction closeBatchPlan settlePlan
  simp [hty, rdMatchedLen_some hv, shouldExtend, Dec.sub]
  grind

theorem tie_ExtendRound (c : Ctx) (aid : Nat) (v : AView) (hv : c.s.views[aid]? = some v) (hne : v.a.endTimes ≠ [])
    (hid : v.a.id = aid) :
    extendRound c aid = Go.runSettlePlan c aid (Gen.ExtendRound v.a c.s.params) := by
  unfold extendRound ExtendRound
  simp [hid, runSettlePlan_false, applySettle, view_of hv, index_last hne, Auction.lastEnd, Go.addDate]

theorem tie_RefundRemainingSellingCoin (c : Ctx) (a : Auction) :
    refundRemainingSellingCoin c a = Go.runSettlePlan c a.id (Gen.RefundRemainingSellingCoin a c.s.bank) := by
  unfold refundRemainingSellingCoin RefundRemainingSellingCoin
  simp [runSettlePlan, applySettle, dstOf, Ctx.bal]

end Fundraising
