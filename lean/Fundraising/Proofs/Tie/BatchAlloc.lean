import Fundraising.Generated.Code.Match
import Fundraising.Proofs.Tie.Match
import Fundraising.Proofs.MatchLemmas
/-
  Tie of the translated `Keeper.CalculateBatchAllocation` (keeper/match.go) — the `sort.Search`
  over the price levels with the closure that keeps the last fitting `Match` result, the
  reservation / allocation / refund maps, the re-flagging of the bids — to `calcBatchWith` of
  Model/Match.lean.  Of its store writes it is proved WHICH are recorded (`flagEffs`: a `Bid.Set`
  for every bid whose flag changes, with the flag `matchedIds` gives it, then
  `SetMatchedBidsLen`); no interpreter runs them: `closeBatch` of Model/Block.lean makes the same
  writes itself, and so does the `calcBatch` arm of `Go.applySettle`.

  Oracles of the translated function: `bids` (the auction's bids in id order), `prices` /
  `byPrice` (what `types.BidsByPrice` returned: the arrangement `sorted` level by level — the
  order inside a level is Go's sort of a non-strict comparator and is a parameter of every
  theorem), `allowed`, and `keysR` / `keysM`: the keys of the two Go maps the code ranges over,
  in the order THIS execution visits them.  The theorem holds for every such order: the result
  does not depend on Go's map iteration order (C14).
-/
namespace Fundraising
open Fundraising.Gen Fundraising.Go

/-! ### the binary search -/

/-- the `matchRes` the translated function starts the search with.  `finalMatchRes` below writes the same literal
    out and does not use this name; `tie_CalculateBatchAllocation` identifies the two by `rfl`. -/
def initSt : MState := { price := (default : Dec), total := (0 : Int), byBidder := (fun _ => none) }

/-- the Go-shaped `matchRes` kept by the search closure against the model's last fitting
    accumulator: untouched while nothing fitted, else the same price, total, bids and per-bidder sums -/
def StRel (s : MState) : Option MAcc → Prop
  | none => s = initSt
  | some acc => s.price = acc.price ∧ s.total = acc.total ∧ s.matched = acc.matched ∧
      ∀ u, ((s.byBidder u).map (·.matched)).getD 0 = acc.alloc u ∧ ((s.byBidder u).map (·.pay)).getD 0 = acc.pay u

theorem index_rev (prices : List Dec) (h : Nat) (hh : h < prices.length) :
    Go.index prices ((((prices.length : Int) - (1 : Int))) - (h : Int)) = prices.getD (prices.length - 1 - h) 0 := by
  unfold Go.index
  have : (((prices.length : Int) - (1 : Int)) - (h : Int)).toNat = prices.length - 1 - h := by omega
  rw [this]; rfl

/-- one call of the search closure at index `h` is `matchAt` at the `h`-th price from below: a fitting result
    is kept, otherwise the closure leaves what it had -/
theorem closure_step (prices : List Dec) (byPrice : Dec → Option (List Bid)) (S : Int)
    (allowed : List Allowed) (sorted : List Bid)
    (hsorted : sorted = prices.flatMap (fun q => (byPrice q).getD []))
    (hlevel : ∀ q ∈ prices, ∀ b ∈ (byPrice q).getD [], b.price = q)
    (hdesc : prices.Pairwise (· > ·))
    (hty : ∀ b ∈ sorted, b.type ≠ .fixed)
    (hal : ∀ b ∈ sorted, (lookupAllowed allowed b.bidder).isSome = true)
    (hnd : (allowed.map (·.bidder)).Pairwise (· < ·)) (h : Nat) (hh : h < prices.length) (s : MState) :
    match matchAt (prices.getD (prices.length - 1 - h) 0) sorted S allowed with
    | .fit acc => ∃ st, CalculateBatchAllocation.closure1 allowed byPrice prices S (h : Int) s = (true, st) ∧ StRel st (some acc)
    | .nofit => CalculateBatchAllocation.closure1 allowed byPrice prices S (h : Int) s = (false, s)
    | .panic => False := by
  have t := tie_Match (prices.getD (prices.length - 1 - h) 0) prices byPrice S allowed sorted hsorted hlevel hdesc hty hal hnd
  unfold CalculateBatchAllocation.closure1
  simp only [index_rev prices h hh]
  refine MRes.sim_imp t (fun acc _ ⟨st, e, hr⟩ => ?_) fun t => by simp only [t]; rfl
  simp only [e]
  exact ⟨st, rfl, hr⟩

/-- `sort.Search` over any closure that follows `f` in that way ends with the result `searchLoop f` computes -/
theorem sortSearchLoop_rel (f : Nat → MRes) (cl : Int → MState → Bool × MState) (n : Nat)
    (hstep : ∀ h, h < n → ∀ s, match f h with
      | .fit acc => ∃ st, cl (h : Int) s = (true, st) ∧ StRel st (some acc)
      | .nofit => cl (h : Int) s = (false, s)
      | .panic => False)
    (fuel i j : Nat) (hj : j ≤ n) (s : MState) (last : Option MAcc) (hR : StRel s last) :
    match searchLoop f fuel i j last with
    | none => False
    | some last' => StRel (Go.sortSearchLoop cl fuel (i : Int) (j : Int) s).2 last' := by
  induction fuel generalizing i j s last with
  | zero => simpa [searchLoop, Go.sortSearchLoop] using hR
  | succ fuel ih =>
    unfold searchLoop Go.sortSearchLoop
    by_cases hij : i < j
    · have hij' : (i : Int) < (j : Int) := by omega
      have hh : ((i : Int) + (j : Int)) / 2 = (((i + j) / 2 : Nat) : Int) := by omega
      simp only [hij, hij', if_true, hh]
      have hs := hstep ((i + j) / 2) (by omega) s
      cases hf : f ((i + j) / 2) with
      | panic => rw [hf] at hs; exact hs
      | nofit =>
        rw [hf] at hs
        simp only [hs]
        have := ih ((i + j) / 2 + 1) j hj s last hR
        simpa using this
      | fit acc =>
        rw [hf] at hs
        obtain ⟨st, e, hr⟩ := hs
        simp only [e]
        have := ih i ((i + j) / 2) (by omega) st (some acc) hr
        simpa using this
    · have hij' : ¬ (i : Int) < (j : Int) := by omega
      simpa [hij, hij'] using hR

/-! ### the five loops after the search, each in closed form -/

/-- `for _, bid := range bids`: the paying amount reserved per bidder -/
theorem CalculateBatchAllocation_loop1_reserved (a : Auction) (bids : List Bid) (f : Acc → Option Int) (effs : List GEff) :
    CalculateBatchAllocation.loop1 a bids f effs =
      Loop.done (fun u => if (∃ b ∈ bids, b.bidder = u) then some ((f u).getD 0 + sumOver bids u (·.toPaying a.payDenom)) else f u, effs) := by
  induction bids generalizing f with
  | nil => simp [CalculateBatchAllocation.loop1]
  | cons b bs ih =>
    unfold CalculateBatchAllocation.loop1
    simp only [tie_ConvertToPayingAmount, ih]
    have key : ∀ g : Acc → Option Int, g = Go.mapSet f b.bidder ((f b.bidder).getD 0 + b.toPaying a.payDenom) →
        (fun u => if (∃ b' ∈ bs, b'.bidder = u) then some ((g u).getD 0 + sumOver bs u (·.toPaying a.payDenom)) else g u) =
        (fun u => if (∃ b' ∈ b :: bs, b'.bidder = u) then some ((f u).getD 0 + sumOver (b :: bs) u (·.toPaying a.payDenom)) else f u) := by
      intro g hg
      subst hg
      funext u
      exact sumMap_cons (·.toPaying a.payDenom) f b bs u
    cases h : f b.bidder with
    | none =>
      simp only [Option.isSome_none, Bool.not_false, if_true]
      rw [key _ (by simp [h])]
    | some x =>
      simp only [Option.isSome_some, Bool.not_true, Bool.false_eq_true, if_false]
      rw [key _ (by simp [h])]

/-- `for bidder, reservedAmt := range reservedAmtByBidder` (keys `keysR`): zero allocation, full refund -/
theorem CalculateBatchAllocation_loop2_unmatched (res : Acc → Option Int) (keys : List Acc) (m : MInfoG) (effs : List GEff) :
    CalculateBatchAllocation.loop2 res keys m effs =
      Loop.done ({ m with
        alloc := fun u => if u ∈ keys then some 0 else m.alloc u,
        reservedMatched := fun u => if u ∈ keys then some 0 else m.reservedMatched u,
        refund := fun u => if u ∈ keys then some ((res u).getD 0) else m.refund u }, effs) := by
  induction keys generalizing m with
  | nil => simp [CalculateBatchAllocation.loop2]
  | cons k ks ih =>
    simp only [CalculateBatchAllocation.loop2, ih, Go.mapSet_fill _ (fun _ => (0 : Int)),
      Go.mapSet_fill _ (fun u => (res u).getD 0)]

/-- `for bidder, bidderRes := range matchRes.MatchResultByBidder` (keys `keysM`): what was matched, the rest refunded -/
theorem CalculateBatchAllocation_loop3_matched (st : MState) (res : Acc → Option Int) (keys : List Acc) (m : MInfoG)
    (effs : List GEff) :
    CalculateBatchAllocation.loop3 st res keys m effs =
      Loop.done ({ m with
        alloc := fun u => if u ∈ keys then some ((st.byBidder u).getD default).matched else m.alloc u,
        reservedMatched := fun u => if u ∈ keys then some ((st.byBidder u).getD default).pay else m.reservedMatched u,
        refund := fun u => if u ∈ keys then some ((res u).getD 0 - ((st.byBidder u).getD default).pay) else m.refund u }, effs) := by
  induction keys generalizing m with
  | nil => simp [CalculateBatchAllocation.loop3]
  | cons k ks ih =>
    simp only [CalculateBatchAllocation.loop3, ih,
      Go.mapSet_fill _ (fun u => ((st.byBidder u).getD default).matched),
      Go.mapSet_fill _ (fun u => ((st.byBidder u).getD default).pay),
      Go.mapSet_fill _ (fun u => (res u).getD 0 - ((st.byBidder u).getD default).pay)]

/-- `for _, bid := range matchRes.MatchedBids`: the set of matched bid ids -/
theorem CalculateBatchAllocation_loop4_ids (l : List Bid) (ids : Int → Option Bool) (effs : List GEff) :
    CalculateBatchAllocation.loop4 l ids effs =
      Loop.done (fun k => if k ∈ l.map (fun b => (b.id : Int)) then some true else ids k, effs) := by
  induction l generalizing ids with
  | nil => simp [CalculateBatchAllocation.loop4]
  | cons b bs ih =>
    simp only [CalculateBatchAllocation.loop4, ih, List.map_cons, Go.mapSet_fill _ (fun _ => true)]

/-- `for _, bid := range bids`: a `Bid.Set` for every bid whose flag changes -/
theorem CalculateBatchAllocation_loop5_flags (m : MInfoG) (ids : Int → Option Bool) (bids : List Bid) (effs : List GEff) :
    CalculateBatchAllocation.loop5 m ids bids effs =
      Loop.done (effs ++ (bids.filter (fun b => b.matched != (ids (b.id : Int)).getD false)).map
        (fun b => ⟨GName.bidSet, [.int (b.auction : Int), .int (b.id : Int), .bid { b with matched := (ids (b.id : Int)).getD false }]⟩)) := by
  induction bids generalizing effs with
  | nil => simp [CalculateBatchAllocation.loop5]
  | cons b bs ih =>
    unfold CalculateBatchAllocation.loop5
    simp only [ih]
    by_cases h : b.matched = (ids (b.id : Int)).getD false
    · simp [h]
    · simp [h]

/-! ### the result of the translated function -/

/-- the final `matchRes` of the translated function (what the binary search leaves in the closure) -/
def finalMatchRes (a : Auction) (prices : List Dec) (byPrice : Dec → Option (List Bid)) (allowed : List Allowed) : MState :=
  (Go.sortSearch (prices.length : Int)
    (fun i s => CalculateBatchAllocation.closure1 allowed byPrice prices a.sellAmt i s)
    ({ price := (default : Dec), total := (0 : Int), byBidder := (fun _ => none) } : MState)).2

/-- the `Bid.Set` calls of the re-flagging loop, in bid order, then `SetMatchedBidsLen` -/
def flagEffs (a : Auction) (bids : List Bid) (mi : MInfo) : List GEff :=
  (bids.filter (fun b => b.matched != mi.matchedIds.contains b.id)).map
    (fun b => ⟨GName.bidSet, [.int (b.auction : Int), .int (b.id : Int), .bid { b with matched := mi.matchedIds.contains b.id }]⟩)
  ++ [⟨GName.matchedLenSet, [.int (a.id : Int), .int mi.matchedLen]⟩]

/-- what the reservation loop leaves for `u`, read with Go's zero default: the sum of his bids -/
theorem reserved_getD (bids : List Bid) (u : Acc) (f : Bid → Int) :
    (if ∃ b, b ∈ bids ∧ b.bidder = u then some ((none : Option Int).getD 0 + sumOver bids u f) else none).getD 0 =
      sumOver bids u f := by
  by_cases h : ∃ b, b ∈ bids ∧ b.bidder = u
  · simp [h]
  · simp [h, sumOver_none f bids u h]

theorem ids_contains (l : List Bid) (n : Nat) :
    (if (n : Int) ∈ l.map (fun b => (b.id : Int)) then some true else none).getD false = (l.map (·.id)).contains n := by
  have h : (n : Int) ∈ l.map (fun b => (b.id : Int)) ↔ n ∈ l.map (·.id) := by
    simp only [List.mem_map, Int.natCast_inj]
  by_cases hn : n ∈ l.map (·.id) <;> simp [h, hn]

/-- what the translated function returns, given the `matchRes` the binary search left: the three
    maps filled for the keys the two loops visit, and the `Bid.Set` calls of the re-flagging loop -/
def cbaRes (st : MState) (a : Auction) (bids : List Bid) (keysR keysM : List Acc) : MInfoG × Bool × List GEff :=
  ({ matchedLen := (st.matched.length : Int), price := st.price, total := st.total,
     alloc := fun u => if u ∈ keysM then some ((st.byBidder u).getD default).matched
        else if u ∈ keysR then some 0 else none,
     reservedMatched := fun u => if u ∈ keysM then some ((st.byBidder u).getD default).pay
        else if u ∈ keysR then some 0 else none,
     refund := fun u =>
        if u ∈ keysM then some (sumOver bids u (fun x => x.toPaying a.payDenom) - ((st.byBidder u).getD default).pay)
        else if u ∈ keysR then some (sumOver bids u (fun x => x.toPaying a.payDenom))
        else none },
   false,
   (bids.filter (fun b => b.matched != (st.matched.map (·.id)).contains b.id)).map
          (fun b => ⟨GName.bidSet, [.int (b.auction : Int), .int (b.id : Int),
            .bid { b with matched := (st.matched.map (·.id)).contains b.id }]⟩)
      ++ [⟨GName.matchedLenSet, [.int (a.id : Int), .int (st.matched.length : Int)]⟩])

theorem CBA_eq (a : Auction) (bids : List Bid) (prices : List Dec)
    (byPrice : Dec → Option (List Bid)) (allowed : List Allowed) (keysR keysM : List Acc)
    (bidsF : Int → List Bid) (hbF : bidsF (a.id : Int) = bids)
    (allowedF : Int → List Allowed) (haF : allowedF (a.id : Int) = allowed) :
    Gen.CalculateBatchAllocation a bidsF prices byPrice allowedF keysR keysM =
      cbaRes (finalMatchRes a prices byPrice allowed) a bids keysR keysM := by
  unfold Gen.CalculateBatchAllocation
  simp only [hbF, haF, CalculateBatchAllocation_loop1_reserved, CalculateBatchAllocation_loop2_unmatched,
    CalculateBatchAllocation_loop3_matched, CalculateBatchAllocation_loop4_ids, CalculateBatchAllocation_loop5_flags,
    reserved_getD, ids_contains, List.nil_append]
  rfl

/-- a map that has an entry exactly for the keys in `keysM`, read for a bidder with Go's zero default -/
theorem row_getD {st : MState} {keysM : List Acc} (hkM : ∀ u, u ∈ keysM ↔ ((st.byBidder u).isSome = true))
    (u : Acc) (f : BRes → Int) :
    (if u ∈ keysM then f ((st.byBidder u).getD default) else 0) = ((st.byBidder u).map f).getD 0 := by
  cases hx : st.byBidder u with
  | none => rw [if_neg (fun hk => by simpa [hx] using (hkM u).1 hk)]; rfl
  | some x => rw [if_pos ((hkM u).2 (by simp [hx]))]; rfl

section
variable (st : MState) (a : Auction) (bids : List Bid) (keysR keysM : List Acc)
  (hkM : ∀ u, u ∈ keysM ↔ ((st.byBidder u).isSome = true)) (u : Acc) (hu : u ∈ keysR)
include hkM hu

theorem cbaRes_alloc :
    ((cbaRes st a bids keysR keysM).1.alloc u).getD 0 = ((st.byBidder u).map (·.matched)).getD 0 := by
  rw [← row_getD hkM]
  simp only [cbaRes, if_pos hu]
  split <;> rfl

theorem cbaRes_refund :
    ((cbaRes st a bids keysR keysM).1.refund u).getD 0 =
      sumOver bids u (·.toPaying a.payDenom) - ((st.byBidder u).map (·.pay)).getD 0 := by
  rw [← row_getD hkM]
  simp only [cbaRes, if_pos hu]
  split
  · rfl
  · exact (Int.sub_zero _).symm
end

theorem cbaRes_spec (st : MState) (res : Option MAcc) (hR : StRel st res) (a : Auction) (bids : List Bid)
    (keysR keysM : List Acc)
    (hkR : ∀ u, u ∈ keysR ↔ u ∈ biddersOf bids)
    (hkM : ∀ u, u ∈ keysM ↔ ((st.byBidder u).isSome = true)) :
    let mi : MInfo := match res with
      | none => noMatchInfo a bids
      | some acc => matchInfo a bids acc
    (cbaRes st a bids keysR keysM).2.1 = false ∧
    (cbaRes st a bids keysR keysM).1.matchedLen = mi.matchedLen ∧
    (cbaRes st a bids keysR keysM).1.price = mi.price ∧
    (cbaRes st a bids keysR keysM).1.total = mi.total ∧
    mi.alloc = (biddersOf bids).map (fun u => (u, (((cbaRes st a bids keysR keysM).1.alloc u).getD 0))) ∧
    mi.refund = (biddersOf bids).map (fun u => (u, (((cbaRes st a bids keysR keysM).1.refund u).getD 0))) ∧
    (cbaRes st a bids keysR keysM).2.2 = flagEffs a bids mi := by
  intro mi
  -- entry by entry, for the bidders of the book: all of them are keys of the reservation map
  have halloc := fun u (hu : u ∈ biddersOf bids) => cbaRes_alloc st a bids keysR keysM hkM u ((hkR u).2 hu)
  have hrefund := fun u (hu : u ∈ biddersOf bids) => cbaRes_refund st a bids keysR keysM hkM u ((hkR u).2 hu)
  cases res with
  | none =>
    have hst : st = initSt := hR
    subst hst
    refine ⟨rfl, rfl, rfl, rfl, ?_, ?_, ?_⟩
    · exact List.map_congr_left fun u hu => by rw [halloc u hu]; rfl
    · exact List.map_congr_left fun u hu => by rw [hrefund u hu]; simp [initSt]
    · rfl
  | some acc =>
    obtain ⟨h1, h2, h3, h4⟩ := hR
    refine ⟨rfl, ?_, h1, h2, ?_, ?_, ?_⟩
    · exact congrArg (fun l : List Bid => (l.length : Int)) h3
    · exact List.map_congr_left fun u hu => by rw [halloc u hu, (h4 u).1]
    · exact List.map_congr_left fun u hu => by rw [hrefund u hu, (h4 u).2]
    · simp only [cbaRes, flagEffs, mi, matchInfo, h3]

/-- `Keeper.CalculateBatchAllocation` = `calcBatchWith` for the arrangement Go produced, for every
    iteration order of the two maps. -/
theorem tie_CalculateBatchAllocation (a : Auction) (bids sorted : List Bid) (prices : List Dec)
    (byPrice : Dec → Option (List Bid)) (allowed : List Allowed) (keysR keysM : List Acc)
    (hprices : prices = distinctPrices sorted)
    (hsorted : sorted = prices.flatMap (fun q => (byPrice q).getD []))
    (hlevel : ∀ q ∈ prices, ∀ b ∈ (byPrice q).getD [], b.price = q)
    (hdesc : prices.Pairwise (· > ·))
    (hty : ∀ b ∈ sorted, b.type ≠ .fixed)
    (hal : ∀ b ∈ sorted, (lookupAllowed allowed b.bidder).isSome = true)
    (hnd : (allowed.map (·.bidder)).Pairwise (· < ·))
    (hkR : ∀ u, u ∈ keysR ↔ u ∈ biddersOf bids) (hkRnd : keysR.Nodup)
    (hkM : ∀ u, u ∈ keysM ↔ ((finalMatchRes a prices byPrice allowed).byBidder u).isSome = true) (hkMnd : keysM.Nodup)
    (bidsF : Int → List Bid) (hbF : bidsF (a.id : Int) = bids)
    (allowedF : Int → List Allowed) (haF : allowedF (a.id : Int) = allowed) :
    match calcBatchWith sorted a bids allowed with
    | none => False
    | some mi =>
      (Gen.CalculateBatchAllocation a bidsF prices byPrice allowedF keysR keysM).2.1 = false ∧
      (Gen.CalculateBatchAllocation a bidsF prices byPrice allowedF keysR keysM).1.matchedLen = mi.matchedLen ∧
      (Gen.CalculateBatchAllocation a bidsF prices byPrice allowedF keysR keysM).1.price = mi.price ∧
      (Gen.CalculateBatchAllocation a bidsF prices byPrice allowedF keysR keysM).1.total = mi.total ∧
      mi.alloc = (biddersOf bids).map
        (fun u => (u, ((Gen.CalculateBatchAllocation a bidsF prices byPrice allowedF keysR keysM).1.alloc u).getD 0)) ∧
      mi.refund = (biddersOf bids).map
        (fun u => (u, ((Gen.CalculateBatchAllocation a bidsF prices byPrice allowedF keysR keysM).1.refund u).getD 0)) ∧
      (Gen.CalculateBatchAllocation a bidsF prices byPrice allowedF keysR keysM).2.2 = flagEffs a bids mi := by
  have _ := hkRnd; have _ := hkMnd  -- (the result does not depend on the key lists being duplicate-free)
  have hstep := closure_step prices byPrice a.sellAmt allowed sorted hsorted hlevel hdesc hty hal hnd
  have hs := sortSearchLoop_rel (fun h => matchAt (prices.getD (prices.length - 1 - h) 0) sorted a.sellAmt allowed)
    (fun i s => CalculateBatchAllocation.closure1 allowed byPrice prices a.sellAmt i s) prices.length
    hstep prices.length 0 prices.length (Nat.le_refl _) initSt none rfl
  have hfin : (Go.sortSearchLoop (fun i s => CalculateBatchAllocation.closure1 allowed byPrice prices a.sellAmt i s)
      prices.length ((0 : Nat) : Int) (prices.length : Int) initSt).2 = finalMatchRes a prices byPrice allowed := by
    simp only [finalMatchRes, Go.sortSearch, Int.toNat_natCast]; rfl
  rw [hfin] at hs
  rw [CBA_eq a bids prices byPrice allowed keysR keysM bidsF hbF allowedF haF]
  unfold calcBatchWith
  simp only [← hprices]
  cases hsl : searchLoop (fun h => matchAt (prices.getD (prices.length - 1 - h) 0) sorted a.sellAmt allowed)
      prices.length 0 prices.length none with
  | none => rw [hsl] at hs; exact hs
  | some res =>
    rw [hsl] at hs
    have := cbaRes_spec (finalMatchRes a prices byPrice allowed) res hs a bids keysR keysM hkR hkM
    cases res <;> exact this

end Fundraising
