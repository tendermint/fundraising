import Fundraising.Generated.Code.Hooks
import Fundraising.Tables.GoRun
/-
  The hooks plumbing, TRANSLATED from the Go source on every run (Generated/Code/Hooks.lean):
  `types.MultiFundraisingHooks.<Hook>` (types/hooks.go: the dispatch over the registered listeners)
  and `Keeper.<Hook>` (keeper/hooks.go: "call the hooks if registered"), all ten of each.

  A listener is its position in the list the keeper was given; what a listener returns is an oracle
  function `lerr` of it; a call of listener `x` is recorded as the hook's effect with `x` in front of
  the arguments.  `dispatchPlan` is the specification of a dispatch: the listeners are called in
  order, each with the SAME arguments, up to and including the first one that returns an error,
  and the error is returned.  Each translated dispatcher and wrapper is proved equal to it, with
  its own parameters, in their own order, as the arguments (C17: "each registered listener is called
  exactly once … with the values the operation actually used … uniformly for every hook and any
  number of listeners").  `run_dispatchPlan` then identifies the execution of such a plan with the
  model's primitive `Ctx.hook`, and `applyEff_*` shows that what the interpreter of the handler plans
  does for a recorded call of the keeper wrapper IS the execution of the translated wrapper's plan.
-/
namespace Fundraising
open Fundraising.Gen Fundraising.Go

def dispatchPlan (n : GName) (args : List GVal) (lerr : Nat → Bool) : List Nat → Bool × List GEff
  | [] => (false, [])
  | x :: xs =>
    if lerr x then (true, [⟨n, .nat x :: args⟩])
    else ((dispatchPlan n args lerr xs).1, ⟨n, .nat x :: args⟩ :: (dispatchPlan n args lerr xs).2)

theorem dispatchPlan_fails_iff (n : GName) (args : List GVal) (lerr : Nat → Bool) (h : List Nat) :
    (dispatchPlan n args lerr h).1 = true ↔ ∃ x ∈ h, lerr x = true := by
  induction h with
  | nil => simp [dispatchPlan]
  | cons x xs ih =>
    by_cases hx : lerr x = true
    · simp [dispatchPlan, hx]
    · simp [dispatchPlan, hx, ih]

theorem dispatchPlan_all (n : GName) (args : List GVal) (lerr : Nat → Bool) (h : List Nat)
    (hok : ∀ x ∈ h, lerr x = false) :
    dispatchPlan n args lerr h = (false, h.map (fun x => ⟨n, .nat x :: args⟩)) := by
  induction h with
  | nil => rfl
  | cons x xs ih =>
    have hx : lerr x = false := hok x (by simp)
    have := ih (fun y hy => hok y (by simp [hy]))
    simp [dispatchPlan, hx, this]

theorem dispatchPlan_first_failure (n : GName) (args : List GVal) (lerr : Nat → Bool) (pre post : List Nat) (x : Nat)
    (hpre : ∀ y ∈ pre, lerr y = false) (hx : lerr x = true) :
    dispatchPlan n args lerr (pre ++ x :: post) = (true, (pre ++ [x]).map (fun y => ⟨n, .nat y :: args⟩)) := by
  induction pre with
  | nil => simp [dispatchPlan, hx]
  | cons y ys ih =>
    have hy : lerr y = false := hpre y (by simp)
    have := ih (fun z hz => hpre z (by simp [hz]))
    simp [dispatchPlan, hy, this]

/-- which listener the test controls make fail -/
def failing (c : Ctx) (name : String) : Nat → Bool := fun x => decide (c.ctl.failhook = some (name, x))

namespace TieHooks

/-- any loop of the dispatch shape computes the dispatch plan, after what was accumulated before -/
theorem multi_spec {f : List Nat → List GEff → Loop (Bool × List GEff) (List GEff)}
    {n : GName} {args : List GVal} {lerr : Nat → Bool}
    (h0 : ∀ effs, f [] effs = Loop.done effs)
    (h1 : ∀ x xs effs, f (x :: xs) effs =
      if lerr x = true then Loop.ret (lerr x, effs ++ [⟨n, .nat x :: args⟩])
      else f xs (effs ++ [⟨n, .nat x :: args⟩]))
    (h : List Nat) (effs : List GEff) :
    loopPlan (f h effs) = ((dispatchPlan n args lerr h).1, effs ++ (dispatchPlan n args lerr h).2) := by
  induction h generalizing effs with
  | nil => simp [h0, dispatchPlan, loopPlan]
  | cons x xs ih =>
    rw [h1]
    by_cases hx : lerr x = true
    · simp [dispatchPlan, hx, loopPlan]
    · simp [hx, dispatchPlan, ih]

/-- `dispatchTo` over any listener list, from any context with the same test controls -/
theorem run_general (n : GName) (args : List GVal) (name : String) (sargs : List String) (c : Ctx)
    (l : List Nat) (c' : Ctx) (hc : c'.ctl = c.ctl) :
    runListeners name sargs (dispatchPlan n args (failing c name) l).2 c' = dispatchTo name sargs l c' := by
  induction l generalizing c' with
  | nil => rfl
  | cons x xs ih =>
    by_cases hx : c.ctl.failhook = some (name, x)
    · simp [dispatchPlan, failing, hx, runListeners, dispatchTo, hc, Ctx.fail, bind, Except.bind]
    · have := ih { c' with effs := c'.effs ++ [.hook x name sargs] } hc
      rw [hc] at this
      simp [dispatchPlan, failing, hx, runListeners, dispatchTo, hc, bind, Except.bind, this]

/-- `if err != nil { return err }; return nil` is `return err`: the keeper wrappers in either shape -/
@[simp] theorem ret_err {α : Type} (b : Bool) (e : α) : (if b = true then (b, e) else (false, e)) = (b, e) := by
  cases b <;> rfl

end TieHooks

theorem run_dispatchPlan (n : GName) (args : List GVal) (name : String) (sargs : List String) (c : Ctx) :
    runListeners name sargs (dispatchPlan n args (failing c name) (List.range c.ctl.listeners)).2 c =
      c.hook name sargs := by
  exact TieHooks.run_general n args name sargs c _ c rfl

theorem run_dispatchPlan_flag (n : GName) (args : List GVal) (name : String) (sargs : List String) (c : Ctx) :
    (dispatchPlan n args (failing c name) (List.range c.ctl.listeners)).1 = true ↔
      ∃ x, x < c.ctl.listeners ∧ c.ctl.failhook = some (name, x) := by
  -- `sargs` is a binder of the statement as it stands; the flag does not depend on it
  have _used := sargs
  rw [dispatchPlan_fails_iff]
  simp [failing, List.mem_range]

/-! ### the translated dispatchers (types/hooks.go) -/

theorem tie_Multi_BeforeFixedPriceAuctionCreated (h : List Nat) (a0 : Acc) (a1 : Dec) (a2 : Coin) (a3 : Denom) (a4 : List VS) (a5 : Int) (a6 : Int) (lerr : Nat → Bool) :
    Gen.Multi_BeforeFixedPriceAuctionCreated h a0 a1 a2 a3 a4 a5 a6 lerr = dispatchPlan .beforeFixedCreated [.nat a0, .int a1, .coin a2, .nat a3, .sched a4, .int a5, .int a6] lerr h :=
  TieHooks.multi_spec (fun _ => rfl) (fun _ _ _ => rfl) h []

theorem tie_Multi_AfterFixedPriceAuctionCreated (h : List Nat) (a0 : Int) (a1 : Acc) (a2 : Dec) (a3 : Coin) (a4 : Denom) (a5 : List VS) (a6 : Int) (a7 : Int) (lerr : Nat → Bool) :
    Gen.Multi_AfterFixedPriceAuctionCreated h a0 a1 a2 a3 a4 a5 a6 a7 lerr = dispatchPlan .afterFixedCreated [.int a0, .nat a1, .int a2, .coin a3, .nat a4, .sched a5, .int a6, .int a7] lerr h :=
  TieHooks.multi_spec (fun _ => rfl) (fun _ _ _ => rfl) h []

theorem tie_Multi_BeforeBatchAuctionCreated (h : List Nat) (a0 : Acc) (a1 : Dec) (a2 : Dec) (a3 : Coin) (a4 : Denom) (a5 : List VS) (a6 : Int) (a7 : Dec) (a8 : Int) (a9 : Int) (lerr : Nat → Bool) :
    Gen.Multi_BeforeBatchAuctionCreated h a0 a1 a2 a3 a4 a5 a6 a7 a8 a9 lerr = dispatchPlan .beforeBatchCreated [.nat a0, .int a1, .int a2, .coin a3, .nat a4, .sched a5, .int a6, .int a7, .int a8, .int a9] lerr h :=
  TieHooks.multi_spec (fun _ => rfl) (fun _ _ _ => rfl) h []

theorem tie_Multi_AfterBatchAuctionCreated (h : List Nat) (a0 : Int) (a1 : Acc) (a2 : Dec) (a3 : Dec) (a4 : Coin) (a5 : Denom) (a6 : List VS) (a7 : Int) (a8 : Dec) (a9 : Int) (a10 : Int) (lerr : Nat → Bool) :
    Gen.Multi_AfterBatchAuctionCreated h a0 a1 a2 a3 a4 a5 a6 a7 a8 a9 a10 lerr = dispatchPlan .afterBatchCreated [.int a0, .nat a1, .int a2, .int a3, .coin a4, .nat a5, .sched a6, .int a7, .int a8, .int a9, .int a10] lerr h :=
  TieHooks.multi_spec (fun _ => rfl) (fun _ _ _ => rfl) h []

theorem tie_Multi_BeforeAuctionCanceled (h : List Nat) (a0 : Int) (a1 : Acc) (lerr : Nat → Bool) :
    Gen.Multi_BeforeAuctionCanceled h a0 a1 lerr = dispatchPlan .beforeAuctionCanceled [.int a0, .nat a1] lerr h :=
  TieHooks.multi_spec (fun _ => rfl) (fun _ _ _ => rfl) h []

theorem tie_Multi_BeforeBidPlaced (h : List Nat) (a0 : Int) (a1 : Int) (a2 : Acc) (a3 : BidType) (a4 : Dec) (a5 : Coin) (lerr : Nat → Bool) :
    Gen.Multi_BeforeBidPlaced h a0 a1 a2 a3 a4 a5 lerr = dispatchPlan .beforeBidPlaced [.int a0, .int a1, .nat a2, .bidType a3, .int a4, .coin a5] lerr h :=
  TieHooks.multi_spec (fun _ => rfl) (fun _ _ _ => rfl) h []

theorem tie_Multi_BeforeBidModified (h : List Nat) (a0 : Int) (a1 : Int) (a2 : Acc) (a3 : BidType) (a4 : Dec) (a5 : Coin) (lerr : Nat → Bool) :
    Gen.Multi_BeforeBidModified h a0 a1 a2 a3 a4 a5 lerr = dispatchPlan .beforeBidModified [.int a0, .int a1, .nat a2, .bidType a3, .int a4, .coin a5] lerr h :=
  TieHooks.multi_spec (fun _ => rfl) (fun _ _ _ => rfl) h []

theorem tie_Multi_BeforeAllowedBiddersAdded (h : List Nat) (a0 : List AllowedArg) (lerr : Nat → Bool) :
    Gen.Multi_BeforeAllowedBiddersAdded h a0 lerr = dispatchPlan .beforeAllowedBiddersAdded [.allowed a0] lerr h :=
  TieHooks.multi_spec (fun _ => rfl) (fun _ _ _ => rfl) h []

theorem tie_Multi_BeforeAllowedBidderUpdated (h : List Nat) (a0 : Int) (a1 : Acc) (a2 : Int) (lerr : Nat → Bool) :
    Gen.Multi_BeforeAllowedBidderUpdated h a0 a1 a2 lerr = dispatchPlan .beforeAllowedBidderUpdated [.int a0, .nat a1, .int a2] lerr h :=
  TieHooks.multi_spec (fun _ => rfl) (fun _ _ _ => rfl) h []

theorem tie_Multi_BeforeSellingCoinsAllocated (h : List Nat) (a0 : Int) (a1 : Acc → Option Int) (a2 : Acc → Option Int) (lerr : Nat → Bool) :
    Gen.Multi_BeforeSellingCoinsAllocated h a0 a1 a2 lerr = dispatchPlan .beforeSellingCoinsAllocated [.int a0, .amap a1, .amap a2] lerr h :=
  TieHooks.multi_spec (fun _ => rfl) (fun _ _ _ => rfl) h []

/-! ### the keeper's wrappers (keeper/hooks.go): nothing without hooks, the dispatch otherwise -/

theorem tie_Keeper_BeforeFixedPriceAuctionCreated (a0 : Acc) (a1 : Dec) (a2 : Coin) (a3 : Denom) (a4 : List VS) (a5 : Int) (a6 : Int) (hooks : Option (List Nat)) (lerr : Nat → Bool) :
    Gen.Keeper_BeforeFixedPriceAuctionCreated a0 a1 a2 a3 a4 a5 a6 hooks lerr = dispatchPlan .beforeFixedCreated [.nat a0, .int a1, .coin a2, .nat a3, .sched a4, .int a5, .int a6] lerr (hooks.getD []) := by
  cases hooks <;> simp [Gen.Keeper_BeforeFixedPriceAuctionCreated, tie_Multi_BeforeFixedPriceAuctionCreated, dispatchPlan]

theorem tie_Keeper_AfterFixedPriceAuctionCreated (a0 : Int) (a1 : Acc) (a2 : Dec) (a3 : Coin) (a4 : Denom) (a5 : List VS) (a6 : Int) (a7 : Int) (hooks : Option (List Nat)) (lerr : Nat → Bool) :
    Gen.Keeper_AfterFixedPriceAuctionCreated a0 a1 a2 a3 a4 a5 a6 a7 hooks lerr = dispatchPlan .afterFixedCreated [.int a0, .nat a1, .int a2, .coin a3, .nat a4, .sched a5, .int a6, .int a7] lerr (hooks.getD []) := by
  cases hooks <;> simp [Gen.Keeper_AfterFixedPriceAuctionCreated, tie_Multi_AfterFixedPriceAuctionCreated, dispatchPlan]

theorem tie_Keeper_BeforeBatchAuctionCreated (a0 : Acc) (a1 : Dec) (a2 : Dec) (a3 : Coin) (a4 : Denom) (a5 : List VS) (a6 : Int) (a7 : Dec) (a8 : Int) (a9 : Int) (hooks : Option (List Nat)) (lerr : Nat → Bool) :
    Gen.Keeper_BeforeBatchAuctionCreated a0 a1 a2 a3 a4 a5 a6 a7 a8 a9 hooks lerr = dispatchPlan .beforeBatchCreated [.nat a0, .int a1, .int a2, .coin a3, .nat a4, .sched a5, .int a6, .int a7, .int a8, .int a9] lerr (hooks.getD []) := by
  cases hooks <;> simp [Gen.Keeper_BeforeBatchAuctionCreated, tie_Multi_BeforeBatchAuctionCreated, dispatchPlan]

theorem tie_Keeper_AfterBatchAuctionCreated (a0 : Int) (a1 : Acc) (a2 : Dec) (a3 : Dec) (a4 : Coin) (a5 : Denom) (a6 : List VS) (a7 : Int) (a8 : Dec) (a9 : Int) (a10 : Int) (hooks : Option (List Nat)) (lerr : Nat → Bool) :
    Gen.Keeper_AfterBatchAuctionCreated a0 a1 a2 a3 a4 a5 a6 a7 a8 a9 a10 hooks lerr = dispatchPlan .afterBatchCreated [.int a0, .nat a1, .int a2, .int a3, .coin a4, .nat a5, .sched a6, .int a7, .int a8, .int a9, .int a10] lerr (hooks.getD []) := by
  cases hooks <;> simp [Gen.Keeper_AfterBatchAuctionCreated, tie_Multi_AfterBatchAuctionCreated, dispatchPlan]

theorem tie_Keeper_BeforeAuctionCanceled (a0 : Int) (a1 : Acc) (hooks : Option (List Nat)) (lerr : Nat → Bool) :
    Gen.Keeper_BeforeAuctionCanceled a0 a1 hooks lerr = dispatchPlan .beforeAuctionCanceled [.int a0, .nat a1] lerr (hooks.getD []) := by
  cases hooks <;> simp [Gen.Keeper_BeforeAuctionCanceled, tie_Multi_BeforeAuctionCanceled, dispatchPlan]

theorem tie_Keeper_BeforeBidPlaced (a0 : Int) (a1 : Int) (a2 : Acc) (a3 : BidType) (a4 : Dec) (a5 : Coin) (hooks : Option (List Nat)) (lerr : Nat → Bool) :
    Gen.Keeper_BeforeBidPlaced a0 a1 a2 a3 a4 a5 hooks lerr = dispatchPlan .beforeBidPlaced [.int a0, .int a1, .nat a2, .bidType a3, .int a4, .coin a5] lerr (hooks.getD []) := by
  cases hooks <;> simp [Gen.Keeper_BeforeBidPlaced, tie_Multi_BeforeBidPlaced, dispatchPlan]

theorem tie_Keeper_BeforeBidModified (a0 : Int) (a1 : Int) (a2 : Acc) (a3 : BidType) (a4 : Dec) (a5 : Coin) (hooks : Option (List Nat)) (lerr : Nat → Bool) :
    Gen.Keeper_BeforeBidModified a0 a1 a2 a3 a4 a5 hooks lerr = dispatchPlan .beforeBidModified [.int a0, .int a1, .nat a2, .bidType a3, .int a4, .coin a5] lerr (hooks.getD []) := by
  cases hooks <;> simp [Gen.Keeper_BeforeBidModified, tie_Multi_BeforeBidModified, dispatchPlan]

theorem tie_Keeper_BeforeAllowedBiddersAdded (a0 : List AllowedArg) (hooks : Option (List Nat)) (lerr : Nat → Bool) :
    Gen.Keeper_BeforeAllowedBiddersAdded a0 hooks lerr = dispatchPlan .beforeAllowedBiddersAdded [.allowed a0] lerr (hooks.getD []) := by
  cases hooks <;> simp [Gen.Keeper_BeforeAllowedBiddersAdded, tie_Multi_BeforeAllowedBiddersAdded, dispatchPlan]

theorem tie_Keeper_BeforeAllowedBidderUpdated (a0 : Int) (a1 : Acc) (a2 : Int) (hooks : Option (List Nat)) (lerr : Nat → Bool) :
    Gen.Keeper_BeforeAllowedBidderUpdated a0 a1 a2 hooks lerr = dispatchPlan .beforeAllowedBidderUpdated [.int a0, .nat a1, .int a2] lerr (hooks.getD []) := by
  cases hooks <;> simp [Gen.Keeper_BeforeAllowedBidderUpdated, tie_Multi_BeforeAllowedBidderUpdated, dispatchPlan]

theorem tie_Keeper_BeforeSellingCoinsAllocated (a0 : Int) (a1 : Acc → Option Int) (a2 : Acc → Option Int) (hooks : Option (List Nat)) (lerr : Nat → Bool) :
    Gen.Keeper_BeforeSellingCoinsAllocated a0 a1 a2 hooks lerr = dispatchPlan .beforeSellingCoinsAllocated [.int a0, .amap a1, .amap a2] lerr (hooks.getD []) := by
  cases hooks <;> simp [Gen.Keeper_BeforeSellingCoinsAllocated, tie_Multi_BeforeSellingCoinsAllocated, dispatchPlan]

/-! ### what the handler plans' interpreter does for a recorded wrapper call IS the translated wrapper's plan, executed -/

/-- the listeners of a context as the keeper holds them -/
def hooksOf (c : Ctx) : Option (List Nat) := some (List.range c.ctl.listeners)

/-- a recorded call that the interpreter hands to `Ctx.hook` (`he`, by evaluation of `applyEff` on the
    hook's name) is the execution of any plan `p` that is the dispatch over the registered listeners -/
theorem TieHooks.applyEff_spec {n : GName} {args : List GVal} {name : String} {sargs : List String}
    {c : Ctx} {v : AView} {p : Bool × List GEff}
    (hp : p = dispatchPlan n args (failing c name) (List.range c.ctl.listeners))
    (he : applyEff ⟨n, args⟩ c v = (c.hook name sargs >>= fun c' => pure (c', v))) :
    applyEff ⟨n, args⟩ c v = (runListeners name sargs p.2 c >>= fun c' => pure (c', v)) := by
  rw [he, hp, run_dispatchPlan]

theorem applyEff_BeforeFixedPriceAuctionCreated (a0 : Acc) (a1 : Dec) (a2 : Coin) (a3 : Denom) (a4 : List VS) (a5 : Int) (a6 : Int) (c : Ctx) (v : AView) :
    applyEff ⟨.beforeFixedCreated, [.nat a0, .int a1, .coin a2, .nat a3, .sched a4, .int a5, .int a6]⟩ c v =
      (runListeners "BeforeFixedPriceAuctionCreated" ([rAcc a0, rInt a1, rNat a2.denom, rInt a2.amt, rNat a3] ++ rSchedules a4 ++ [rInt a5, rInt a6])
        (Gen.Keeper_BeforeFixedPriceAuctionCreated a0 a1 a2 a3 a4 a5 a6 (hooksOf c) (failing c "BeforeFixedPriceAuctionCreated")).2 c >>= fun c' => pure (c', v)) :=
  TieHooks.applyEff_spec (tie_Keeper_BeforeFixedPriceAuctionCreated ..) rfl

theorem applyEff_AfterFixedPriceAuctionCreated (a0 : Int) (a1 : Acc) (a2 : Dec) (a3 : Coin) (a4 : Denom) (a5 : List VS) (a6 : Int) (a7 : Int) (c : Ctx) (v : AView) :
    applyEff ⟨.afterFixedCreated, [.int a0, .nat a1, .int a2, .coin a3, .nat a4, .sched a5, .int a6, .int a7]⟩ c v =
      (runListeners "AfterFixedPriceAuctionCreated" ([rNat a0.toNat, rAcc a1, rInt a2, rNat a3.denom, rInt a3.amt, rNat a4] ++ rSchedules a5 ++ [rInt a6, rInt a7])
        (Gen.Keeper_AfterFixedPriceAuctionCreated a0 a1 a2 a3 a4 a5 a6 a7 (hooksOf c) (failing c "AfterFixedPriceAuctionCreated")).2 c >>= fun c' => pure (c', v)) :=
  TieHooks.applyEff_spec (tie_Keeper_AfterFixedPriceAuctionCreated ..) rfl

theorem applyEff_BeforeBatchAuctionCreated (a0 : Acc) (a1 : Dec) (a2 : Dec) (a3 : Coin) (a4 : Denom) (a5 : List VS) (a6 : Int) (a7 : Dec) (a8 : Int) (a9 : Int) (c : Ctx) (v : AView) :
    applyEff ⟨.beforeBatchCreated, [.nat a0, .int a1, .int a2, .coin a3, .nat a4, .sched a5, .int a6, .int a7, .int a8, .int a9]⟩ c v =
      (runListeners "BeforeBatchAuctionCreated" ([rAcc a0, rInt a1, rInt a2, rNat a3.denom, rInt a3.amt, rNat a4] ++ rSchedules a5 ++ [rNat a6.toNat, rInt a7, rInt a8, rInt a9])
        (Gen.Keeper_BeforeBatchAuctionCreated a0 a1 a2 a3 a4 a5 a6 a7 a8 a9 (hooksOf c) (failing c "BeforeBatchAuctionCreated")).2 c >>= fun c' => pure (c', v)) :=
  TieHooks.applyEff_spec (tie_Keeper_BeforeBatchAuctionCreated ..) rfl

theorem applyEff_AfterBatchAuctionCreated (a0 : Int) (a1 : Acc) (a2 : Dec) (a3 : Dec) (a4 : Coin) (a5 : Denom) (a6 : List VS) (a7 : Int) (a8 : Dec) (a9 : Int) (a10 : Int) (c : Ctx) (v : AView) :
    applyEff ⟨.afterBatchCreated, [.int a0, .nat a1, .int a2, .int a3, .coin a4, .nat a5, .sched a6, .int a7, .int a8, .int a9, .int a10]⟩ c v =
      (runListeners "AfterBatchAuctionCreated" ([rNat a0.toNat, rAcc a1, rInt a2, rInt a3, rNat a4.denom, rInt a4.amt, rNat a5] ++ rSchedules a6 ++ [rNat a7.toNat, rInt a8, rInt a9, rInt a10])
        (Gen.Keeper_AfterBatchAuctionCreated a0 a1 a2 a3 a4 a5 a6 a7 a8 a9 a10 (hooksOf c) (failing c "AfterBatchAuctionCreated")).2 c >>= fun c' => pure (c', v)) :=
  TieHooks.applyEff_spec (tie_Keeper_AfterBatchAuctionCreated ..) rfl

theorem applyEff_BeforeAuctionCanceled (a0 : Int) (a1 : Acc) (c : Ctx) (v : AView) :
    applyEff ⟨.beforeAuctionCanceled, [.int a0, .nat a1]⟩ c v =
      (runListeners "BeforeAuctionCanceled" [rNat a0.toNat, rAcc a1]
        (Gen.Keeper_BeforeAuctionCanceled a0 a1 (hooksOf c) (failing c "BeforeAuctionCanceled")).2 c >>= fun c' => pure (c', v)) :=
  TieHooks.applyEff_spec (tie_Keeper_BeforeAuctionCanceled ..) rfl

theorem applyEff_BeforeBidPlaced (a0 : Int) (a1 : Int) (a2 : Acc) (a3 : BidType) (a4 : Dec) (a5 : Coin) (c : Ctx) (v : AView) :
    applyEff ⟨.beforeBidPlaced, [.int a0, .int a1, .nat a2, .bidType a3, .int a4, .coin a5]⟩ c v =
      (runListeners "BeforeBidPlaced" [rNat a0.toNat, rNat a1.toNat, rAcc a2, rBidType a3, rInt a4, rNat a5.denom, rInt a5.amt]
        (Gen.Keeper_BeforeBidPlaced a0 a1 a2 a3 a4 a5 (hooksOf c) (failing c "BeforeBidPlaced")).2 c >>= fun c' => pure (c', v)) :=
  TieHooks.applyEff_spec (tie_Keeper_BeforeBidPlaced ..) rfl

theorem applyEff_BeforeBidModified (a0 : Int) (a1 : Int) (a2 : Acc) (a3 : BidType) (a4 : Dec) (a5 : Coin) (c : Ctx) (v : AView) :
    applyEff ⟨.beforeBidModified, [.int a0, .int a1, .nat a2, .bidType a3, .int a4, .coin a5]⟩ c v =
      (runListeners "BeforeBidModified" [rNat a0.toNat, rNat a1.toNat, rAcc a2, rBidType a3, rInt a4, rNat a5.denom, rInt a5.amt]
        (Gen.Keeper_BeforeBidModified a0 a1 a2 a3 a4 a5 (hooksOf c) (failing c "BeforeBidModified")).2 c >>= fun c' => pure (c', v)) :=
  TieHooks.applyEff_spec (tie_Keeper_BeforeBidModified ..) rfl

theorem applyEff_BeforeAllowedBiddersAdded (a0 : List AllowedArg) (c : Ctx) (v : AView) :
    applyEff ⟨.beforeAllowedBiddersAdded, [.allowed a0]⟩ c v =
      (runListeners "BeforeAllowedBiddersAdded" (rAllowedArgs a0)
        (Gen.Keeper_BeforeAllowedBiddersAdded a0 (hooksOf c) (failing c "BeforeAllowedBiddersAdded")).2 c >>= fun c' => pure (c', v)) :=
  TieHooks.applyEff_spec (tie_Keeper_BeforeAllowedBiddersAdded ..) rfl

theorem applyEff_BeforeAllowedBidderUpdated (a0 : Int) (a1 : Acc) (a2 : Int) (c : Ctx) (v : AView) :
    applyEff ⟨.beforeAllowedBidderUpdated, [.int a0, .nat a1, .int a2]⟩ c v =
      (runListeners "BeforeAllowedBidderUpdated" [rNat a0.toNat, rAcc a1, rInt a2]
        (Gen.Keeper_BeforeAllowedBidderUpdated a0 a1 a2 (hooksOf c) (failing c "BeforeAllowedBidderUpdated")).2 c >>= fun c' => pure (c', v)) :=
  TieHooks.applyEff_spec (tie_Keeper_BeforeAllowedBidderUpdated ..) rfl

/-! non-vacuity: three registered listeners, listener 1 vetoes `BeforeAuctionCanceled`: listeners 0
    and 1 are called (in that order, with the operation's values), listener 2 is not, the error is returned -/

example : Gen.Keeper_BeforeAuctionCanceled 4 9 (some [0, 1, 2]) (fun x => decide (x = 1)) =
    (true, [⟨.beforeAuctionCanceled, [.nat 0, .int 4, .nat 9]⟩, ⟨.beforeAuctionCanceled, [.nat 1, .int 4, .nat 9]⟩]) := by
  rw [tie_Keeper_BeforeAuctionCanceled]; rfl
example : (Gen.Keeper_BeforeAuctionCanceled 4 9 none (fun _ => true)) = (false, []) := by
  rw [tie_Keeper_BeforeAuctionCanceled]; rfl

end Fundraising
