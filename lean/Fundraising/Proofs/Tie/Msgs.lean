import Fundraising.Generated.Code.Msgs
/-
  Tie of the translated `ValidateBasic` methods (types/msgs.go) to the model's `validateBasic`
  (see Proofs/Tie/Pure.lean for what a tie theorem is).
-/
namespace Fundraising
open Fundraising.Gen

/-! ### types/msgs.go: ValidateBasic of every message (true = an error is returned) -/

theorem tie_ValidateBasic_cancel (m : CancelMsg) :
    MsgCancelAuction_ValidateBasic m = !validateBasic (.cancel m.signer m.aid) := by
  unfold MsgCancelAuction_ValidateBasic validateBasic
  grind

theorem tie_ValidateBasic_place (m : PlaceMsg) :
    MsgPlaceBid_ValidateBasic m = !validateBasic (.place m.bidder m.aid m.bidType m.price m.denom m.amt) := by
  unfold MsgPlaceBid_ValidateBasic validateBasic validCoin
  rcases m with ⟨b, a, (_|_|_|_), p, d, am⟩ <;> grind

theorem tie_ValidateBasic_modify (m : ModifyMsg) :
    MsgModifyBid_ValidateBasic m = !validateBasic (.modify m.bidder m.aid m.bidId m.price m.denom m.amt) := by
  unfold MsgModifyBid_ValidateBasic validateBasic validCoin
  grind

theorem tie_ValidateBasic_addAllowed (m : AddAllowedMsg) :
    MsgAddAllowedBidder_ValidateBasic m = !validateBasic (.addAllowed m.aid m.ab) := by
  unfold MsgAddAllowedBidder_ValidateBasic validateBasic
  grind

/-! ### types/params.go -/

theorem tie_Params_Validate (p : Params) :
    Gen.Params_Validate p = !(validCoins p.creationFee && validCoins p.bidFee) := by
  unfold Gen.Params_Validate Gen.validateAuctionCreationFee Gen.validatePlaceBidFee Gen.validateExtendedPeriod
  grind

end Fundraising
