import Fundraising.Tables.GoStore
import Fundraising.Proofs.ListLemmas
/-
  Equations of the store-threaded collections API (Tables/GoStore.lean): what its reads return on
  the store of a model state (the read functions `Go.rd…` of Tables/GoRun.lean), what a write does
  to a view that exists, and what the fold a `Walk` is translated to computes.  The ties of the
  store-threaded units (getters, queries, genesis import and export) use the store
  through these.
-/
namespace Fundraising
open Fundraising.Go

@[simp] theorem storeOf_views (s : Core) : (storeOf s).views = s.views := rfl

theorem viewAt_storeOf (s : Core) (id : Int) : (storeOf s).viewAt id = viewAt s id := rfl
theorem bidsOf_storeOf (s : Core) (id : Int) : (storeOf s).bidsOf id = rdBids s id := rfl
theorem vqsOf_storeOf (s : Core) (id : Int) : (storeOf s).vqsOf id = rdVqs s id := rfl
theorem allowedOf_storeOf (s : Core) (id : Int) : (storeOf s).allowedOf id = rdAllowedList s id := rfl
theorem bidGet_storeOf (s : Core) (aid id : Int) : (storeOf s).bidGet aid id = rdBid s aid id := rfl
theorem paramsGet_storeOf (s : Core) : (storeOf s).paramsGet = (s.params, false) := rfl

/-- (the next four) the records a `Walk` over a whole collection visits -/
theorem allAuctions_storeOf (s : Core) : (storeOf s).allAuctions = s.views.map (·.a) := rfl
theorem allBids_storeOf (s : Core) : (storeOf s).allBids = s.views.flatMap (·.bids) := rfl
theorem allVqs_storeOf (s : Core) : (storeOf s).allVqs = s.views.flatMap (·.vqs) := rfl
theorem allAllowed_storeOf (s : Core) : (storeOf s).allAllowed =
    s.views.flatMap (fun v => v.allowed.map (fun x => (⟨v.a.id, x.bidder, x.cap⟩ : AllowedArg))) := rfl

/-- (this and the next) `MatchedBidsLen.Get` and `BidSeq.Get`: the model keeps 0 where the code has no entry, and the
    code reports "not found" exactly then -/
theorem matchedLenGet_storeOf (s : Core) (id : Int) :
    (storeOf s).matchedLenGet id = (rdMatchedLen s id, decide (rdMatchedLen s id = 0)) := by
  unfold GStore.matchedLenGet rdMatchedLen
  rw [viewAt_storeOf]
  cases viewAt s id <;> rfl

theorem bidSeqGet_storeOf (s : Core) (id : Int) :
    (storeOf s).bidSeqGet id = (rdNextBidId s id - 1, decide (rdNextBidId s id = 1)) := by
  unfold GStore.bidSeqGet rdNextBidId
  rw [viewAt_storeOf]
  cases viewAt s id with
  | none => rfl
  | some v => simp; omega

/-- `GetNextBidIdWithUpdate` on the store: the next id, written back with `BidSeq.Set` -/
theorem nextBidId_storeOf (s : Core) (id : Int) (h0 : 0 ≤ id) :
    (storeOf s).nextBidId id = (rdNextBidId s id, (storeOf s).bidSeqSet id (rdNextBidId s id)) := by
  simp only [GStore.nextBidId, GStore.bidSeqSet, rdNextBidId, viewAt, storeOf_views, h0, if_true]
  cases hv : s.views[id.toNat]? with
  | none => simp [GStore.modify, hv]
  | some v => simp [GStore.modify, hv]

theorem allowedGet_storeOf (s : Core) (aid : Nat) (u : Acc) :
    (storeOf s).allowedGet aid u =
      match s.views[aid]? with
      | some v => (((lookupAllowed v.allowed u).map (fun x => (⟨v.a.id, x.bidder, x.cap⟩ : AllowedArg))).getD default,
                   (lookupAllowed v.allowed u).isNone)
      | none => (default, true) := by
  unfold GStore.allowedGet
  rw [viewAt_storeOf, viewAt_nat]
  cases s.views[aid]? <;> rfl

/-- `Auction.Get` reads `views[id.toNat]?` and `rdAuction` tests `0 ≤ id` first; `GStore.modify`
    (next lemma) writes under `aid.toNat` likewise, while `viewAt` and `bidSeqSet` test the sign: a
    negative id would hit auction 0.  They agree on the keys the code passes (auction ids are
    unsigned), which is why both lemmas take a `Nat` key -/
theorem auctionGet_storeOf (s : Core) (aid : Nat) : (storeOf s).auctionGet aid = rdAuction s aid := by
  simp only [GStore.auctionGet, rdAuction, viewAt_nat, storeOf_views, Int.toNat_natCast]
  cases s.views[aid]? <;> rfl

theorem GStore.modify_some {st : GStore} {k : Nat} {v : AView} (f : AView → AView)
    (h : st.views[k]? = some v) :
    st.modify (k : Int) f = { st with views := st.views.set k (f v) } := by
  simp [GStore.modify, h]

/-- the fold a `Walk` with closure `w` becomes, when `w` adds the record it visits to what has
    been collected: `act s l` is `s` with the records `l` added -/
theorem foldl_walk {α σ : Type} (w : α → σ → σ) (act : σ → List α → σ)
    (h0 : ∀ s, act s [] = s) (h1 : ∀ s x l, act (w x s) l = act s (x :: l)) (l : List α) (s : σ) :
    List.foldl (fun s v => w v s) s l = act s l := by
  induction l generalizing s with
  | nil => exact (h0 s).symm
  | cons x xs ih => rw [List.foldl_cons, ih, h1]

theorem foldl_walk_append {α : Type} (l acc : List α) :
    List.foldl (fun s v => s ++ [v]) acc l = acc ++ l :=
  foldl_walk (fun v s => s ++ [v]) (· ++ ·) (by simp) (by simp) l acc

theorem foldl_walk_filter {α : Type} (p : α → Bool) (l acc : List α) :
    List.foldl (fun s v => if p v then s ++ [v] else s) acc l = acc ++ l.filter p :=
  foldl_walk (fun v s => if p v then s ++ [v] else s) (fun s l => s ++ l.filter p) (by simp)
    (fun s x l => by cases h : p x <;> simp [h]) l acc

end Fundraising
