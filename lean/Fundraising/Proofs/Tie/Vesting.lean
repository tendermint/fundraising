import Fundraising.Generated.Code.Settle
import Fundraising.Tables.GoRun
import Fundraising.Proofs.Tie.Pure
import Fundraising.Proofs.Exec
/-
  Tie of the translated `Keeper.ApplyVestingSchedules` (keeper/vesting.go) and
  `Keeper.ReleaseVestingPayingCoin` (keeper/auction.go) to `applyVestingSchedules` and
  `releaseVesting` of Model/Block.lean.
-/
namespace Fundraising
open Fundraising.Gen Fundraising.Go

namespace TieVesting

/-- the `VestingQueue.Set` recorded for the instalment `p` = (release time, amount) -/
def vqEff (a : Auction) (p : Int × Int) : GEff :=
  GEff.mk GName.vqSet [GVal.int (a.id : Int), GVal.int p.1,
    GVal.vq ({ auction := ((a.id : Int)).toNat, auctioneer := a.auctioneer, denom := a.payDenom,
               amt := p.2, release := p.1, released := false } : VQ)]

/-- the loop of `ApplyVestingSchedules` records one `VestingQueue.Set` per instalment of
    `splitLoop`, behind whatever it was handed; `r` is the remainder it carries along -/
theorem ApplyVestingSchedules_loop1_parts (a : Auction) (bal : Addr → Denom → Int) (l : List VS) (i : Int) (rem : Coin)
    (parts : List (Int × Int)) (hlen : i + l.length = (a.schedules.length : Int))
    (hs : splitLoop (bal (Addr.pay a.id) a.payDenom) l rem.amt = some parts) :
    ∃ r, ∀ effs, ApplyVestingSchedules.loop1 a bal l i rem effs = Loop.done (r, effs ++ parts.map (vqEff a)) := by
  induction l generalizing i rem parts with
  | nil =>
    simp [splitLoop] at hs
    subst hs
    exact ⟨rem, fun effs => by simp [ApplyVestingSchedules.loop1]⟩
  | cons s rest ih =>
    cases rest with
    | nil =>
      simp only [splitLoop] at hs
      have hi : i = (a.schedules.length : Int) - 1 := by simp at hlen; omega
      by_cases hr : rem.amt < 0
      · simp [hr] at hs
      · simp [hr] at hs
        subst hs
        exact ⟨⟨rem.denom, 0⟩, fun effs => by simp [hi, ApplyVestingSchedules.loop1, vqEff]⟩
    | cons s' rest' =>
      have hi : ¬ i = (a.schedules.length : Int) - 1 := by simp at hlen; omega
      simp only [splitLoop] at hs
      generalize hamt : ((Dec.ofInt (bal (Addr.pay a.id) a.payDenom)).mulTrunc s.weight).truncInt = amt at hs
      by_cases h1 : amt < 0
      · simp [h1] at hs
      by_cases h2 : rem.amt - amt < 0
      · simp [h1, h2] at hs
      simp only [h1, h2, if_false] at hs
      cases hp : splitLoop (bal (Addr.pay a.id) a.payDenom) (s' :: rest') (rem.amt - amt) with
      | none => simp [hp] at hs
      | some ps =>
        simp [hp] at hs
        subst hs
        obtain ⟨r, hr⟩ := ih (i + 1) ⟨rem.denom, rem.amt - amt⟩ ps (by simp at hlen ⊢; omega) hp
        refine ⟨r, fun effs => ?_⟩
        unfold ApplyVestingSchedules.loop1
        simp [hi, hamt, hr, vqEff]

/-- their run files the queues in the view, one `setVQ` each -/
theorem run_vqEffs (aid : Nat) (a : Auction) (hid : a.id = aid) (parts : List (Int × Int))
    (c : Ctx) (v : AView) (hv : c.s.views[aid]? = some v) :
    runSettle aid (parts.map (vqEff a)) c =
      pure (c.setView aid { v with vqs := parts.foldl (fun l p =>
        setVQ l { auction := aid, release := p.1, auctioneer := a.auctioneer,
                  denom := a.payDenom, amt := p.2, released := false }) v.vqs }) := by
  induction parts generalizing c v with
  | nil => simp [setView_self hv]
  | cons p ps ih =>
    simp only [List.map_cons, runSettle_cons, List.foldl_cons, vqEff, applySettle, hid, Int.toNat_natCast, and_self,
      if_true, view_of hv, pure_bind]
    rw [ih _ _ (view_setView hv), setView_setView]

/-- `ReleaseVestingPayingCoin` over the queues `l`, the `i`-th onwards of `N`: the auction record
    it ends with and the calls it records.  A due queue is paid out and marked; the last queue of
    all, when due, finishes the auction. -/
def relRun (now : Int) (N : Nat) : Nat → List VQ → Auction → Auction × List GEff
  | _, [], a => (a, [])
  | i, q :: rest, a =>
    if q.release ≤ now ∧ q.released = false then
      let pay : List GEff :=
        [⟨.sendCoins, [.addr (.vest a.id), .nat a.auctioneer, .coin (Go.vqCoin q)]⟩,
         ⟨.vqSet, [.int q.auction, .int q.release, .vq { q with released := true }]⟩]
      if i + 1 = N then
        let r := relRun now N (i + 1) rest { a with status := .finished }
        (r.1, pay ++ ⟨.auctionSet, [.int a.id, .auction { a with status := .finished }]⟩ :: r.2)
      else
        let r := relRun now N (i + 1) rest a
        (r.1, pay ++ r.2)
    else relRun now N (i + 1) rest a

/-- the translated loop returns the record of `relRun` and has recorded its calls, behind `effs` -/
theorem ReleaseVestingPayingCoin_loop1_code (L : List VQ) (now : Int) (l : List VQ) (i : Nat) (a : Auction) (effs : List GEff) :
    ReleaseVestingPayingCoin.loop1 now L l (i : Int) a effs =
      Loop.done ((relRun now L.length i l a).1, effs ++ (relRun now L.length i l a).2) := by
  induction l generalizing i a effs with
  | nil => simp [ReleaseVestingPayingCoin.loop1, relRun]
  | cons q rest ih =>
    have hcast : ((i : Int) + 1) = ((i + 1 : Nat) : Int) := by omega
    have hlast : ((i : Int) = (L.length : Int) - 1) ↔ i + 1 = L.length := by omega
    unfold ReleaseVestingPayingCoin.loop1 relRun
    simp only [tie_ShouldRelease, hcast, hlast, ih]
    by_cases hc : q.release ≤ now ∧ q.released = false <;> by_cases hl : i + 1 = L.length <;> simp [hc, hl]

/-- the model's loop is the run of the calls of `relRun`.  The auction's id, auctioneer and record are
    parameters of their own, tied to the view `w` by equations: the loop goes on with ANOTHER view of the same
    id, and from `w.a.id` in the statement the unifier would take the induction hypothesis at `w` itself. -/
theorem ReleaseVestingPayingCoin_loop1_model (aid N : Nat) (u : Acc) (l : List VQ) (hq : ∀ q ∈ l, q.auction = aid) (i : Nat)
    (c : Ctx)
    (w : AView) (a : Auction) (hw : c.s.views[aid]? = some w) (hwa : w.a = a) (hid : a.id = aid) (hu : a.auctioneer = u) :
    releaseLoop c aid u N i l = runSettle aid (relRun c.s.now N i l a).2 c := by
  induction l generalizing i c w a with
  | nil => rfl
  | cons q rest ih =>
    have hqa : q.auction = aid := hq q (by simp)
    have hq' : ∀ q' ∈ rest, q'.auction = aid := fun q' h => hq q' (by simp [h])
    subst hwa hid hu
    unfold releaseLoop relRun
    by_cases hc : q.release ≤ c.s.now ∧ q.released = false
    · have hcm : q.release ≤ c.s.now ∧ (!q.released) = true := ⟨hc.1, by rw [hc.2]; rfl⟩
      rw [if_pos hc, if_pos hcm]
      split
      all_goals
        simp only [List.cons_append, List.nil_append, runSettle_cons, applySettle, dstOf,
          hqa, vqCoin_denom, vqCoin_amt, bind_assoc, pure_bind]
        refine bind_congr_ok fun coins _ => ?_
        refine bind_congr_ok fun c' hb => ?_
        have hv' : c'.s.views[w.a.id]? = some w := by rw [bankCall_views hb]; exact hw
        simp only [view_of hv', view_of (view_setView hv'), pure_bind, setView_setView, and_self, if_true]
        rw [← bankCall_now hb]
        exact ih hq' (i + 1) _ _ _ (view_setView hv') rfl rfl rfl
    · have hcm : ¬ (q.release ≤ c.s.now ∧ (!q.released) = true) := by
        intro h; exact hc ⟨h.1, by simpa using h.2⟩
      rw [if_neg hc, if_neg hcm]
      exact ih hq' (i + 1) c w _ hw rfl rfl rfl

/-- the two together, as `tie_ReleaseVestingPayingCoin` takes them -/
theorem rel_loop (aid : Nat) (L : List VQ) (N : Nat) (hN : L.length = N) (now : Int) (l : List VQ) (i : Nat) (a : Auction) (effs : List GEff)
    (hid : a.id = aid) (hq : ∀ q ∈ l, q.auction = aid) :
    ∃ a' E, ReleaseVestingPayingCoin.loop1 now L l (i : Int) a effs = Loop.done (a', effs ++ E) ∧
      ∀ (c : Ctx) (w : AView), c.s.views[aid]? = some w → w.a = a → c.s.now = now →
        releaseLoop c aid a.auctioneer N i l = runSettle aid E c := by
  refine ⟨_, _, ReleaseVestingPayingCoin_loop1_code L now l i a effs, fun c w hw hwa hnow => ?_⟩
  subst hwa hnow hN
  exact ReleaseVestingPayingCoin_loop1_model aid _ _ l hq i c w _ hw rfl hid rfl

end TieVesting
open TieVesting

set_option linter.unusedSimpArgs false in -- facts named in every spelling the code may use
/-- `Keeper.ApplyVestingSchedules`.  `hid`: the stored auction carries its own key.  `hsplit`: no
    instalment is negative (Go would panic in `sdk.NewCoin` / `SubAmount`; the model says `.panic`
    there — excluded for valid schedules and a non-negative reserve by `splitLoop_spec`,
    Proofs/VestingLemmas.lean). -/
theorem tie_ApplyVestingSchedules (c : Ctx) (aid : Nat) (v : AView) (hv : c.s.views[aid]? = some v)
    (hid : v.a.id = aid)
    (hsplit : (splitLoop (c.s.bank (.pay aid) v.a.payDenom) v.a.schedules (c.s.bank (.pay aid) v.a.payDenom)).isSome = true) :
    applyVestingSchedules c aid = Go.runSettlePlan c aid (Gen.ApplyVestingSchedules v.a c.s.bank) := by
  -- the two sides are compared as RUNS, not as plans: a variant of the Go code that merges its two branches
  -- records the recipient as an address (`.addr (.user u)`) where this one records the account (`.nat u`);
  -- `dstOf` reads both the same, a plan equation would tell them apart
  unfold applyVestingSchedules Gen.ApplyVestingSchedules
  simp only [view_of hv, pure_bind, Ctx.bal]
  have hv' : ∀ {c' : Ctx} {k src dst coins}, c.bankCall k src dst coins = .ok c' → c'.s.views[aid]? = some v :=
    fun hb => by rw [bankCall_views hb]; exact hv
  by_cases he : v.a.schedules = []
  · -- with no schedules a loop the code may still run over them (a merged branch) does nothing:
    -- every loop of this function is unfolded once on the empty list, whichever exist
    first
      | simp [he, ApplyVestingSchedules.loop1, ApplyVestingSchedules.loop2, runSettlePlan_false, applySettle, dstOf, hid]
      | simp [he, ApplyVestingSchedules.loop1, runSettlePlan_false, applySettle, dstOf, hid]
    refine bind_congr_ok fun coins _ => ?_
    refine bind_congr_ok fun c' hb => ?_
    simp only [view_of (hv' hb), map_pure]
    rfl
  · have hne : ¬ ((v.a.schedules.length : Int) = 0) := by
      have := List.length_pos_iff.mpr he
      omega
    -- the other way of asking whether there are schedules (last index below zero)
    have hlt : ¬ ((v.a.schedules.length : Int) - 1 < 0) := by
      have := List.length_pos_iff.mpr he
      omega
    have hie : v.a.schedules.isEmpty = false := by simpa using he
    cases hsp : splitLoop (c.s.bank (.pay aid) v.a.payDenom) v.a.schedules (c.s.bank (.pay aid) v.a.payDenom) with
    | none => simp [hsp] at hsplit
    | some parts =>
      obtain ⟨r, hr⟩ := ApplyVestingSchedules_loop1_parts v.a c.s.bank v.a.schedules 0
        ⟨v.a.payDenom, c.s.bank (.pay aid) v.a.payDenom⟩ parts
        (by simp) (by rw [hid]; exact hsp)
      simp only [hne, hlt, hid, decide_false, Bool.false_eq_true, if_false, hr]
      simp only [hie, runSettlePlan_false, List.nil_append, List.cons_append, runSettle_cons, runSettle_append,
        runSettle_nil, applySettle, dstOf, Bool.false_eq_true, if_false, bind_assoc]
      refine bind_congr_ok fun coins _ => ?_
      refine bind_congr_ok fun c' hb => ?_
      simp only [run_vqEffs aid v.a hid parts c' v (hv' hb), pure_bind, bind_pure, and_self, if_true,
        view_of (view_setView (hv' hb)), setView_setView]

/-- `Keeper.ReleaseVestingPayingCoin`.  `hq`: a stored queue carries the id of its auction, the key of its
    `VestingQueue.Set` (`ViewWF.vqsWF`). -/
theorem tie_ReleaseVestingPayingCoin (c : Ctx) (aid : Nat) (v : AView) (hv : c.s.views[aid]? = some v)
    (hid : v.a.id = aid) (hq : ∀ q ∈ v.vqs, q.auction = aid) :
    releaseVesting c aid = Go.runSettlePlan c aid (Gen.ReleaseVestingPayingCoin v.a (rdVqs c.s) c.s.now) := by
  subst hid
  obtain ⟨a', E, h1, h2⟩ := rel_loop v.a.id v.vqs v.vqs.length rfl c.s.now v.vqs 0 v.a [] rfl hq
  unfold releaseVesting Gen.ReleaseVestingPayingCoin
  simp only [rdVqs_some hv, view_of hv, pure_bind, Int.natCast_zero ▸ h1, List.nil_append, runSettlePlan_false]
  exact h2 c v hv rfl rfl

end Fundraising
