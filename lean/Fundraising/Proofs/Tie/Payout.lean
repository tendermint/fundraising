import Fundraising.Generated.Code.Payout
import Fundraising.Tables.GoRun
import Fundraising.Proofs.ListLemmas
/-
  Tie of the translated `Keeper.AllocateSellingCoin` / `Keeper.RefundPayingCoin`
  (keeper/auction.go) to `allocateSellingCoin` / `refundPayingCoin` of Model/Block.lean.

  The Go code collects the keys of a Go map (`for bidder := range mInfo.AllocationMap`), sorts
  them, and issues one `InputOutputCoins` per bidder with a non-zero amount.  `keys` is the
  order in which THIS execution's map iteration visits the keys: the theorems hold for every
  such order, and `*_order_independent` states it outright — the ordered sequence of bank
  transfers does not depend on Go's map iteration order (C14).
-/
namespace Fundraising
open Fundraising.Gen Fundraising.Go

/-- the `ioCoins` entry the translated code builds for a bidder with a non-zero amount -/
def iocOf (src : Addr) (d : Denom) (m : Acc → Option Int) (u : Acc) : IOC :=
  { bidder := u, outputs := [BankOut.mk u (Coin.mk d ((m u).getD 0))], input := BankIn.mk src (Coin.mk d ((m u).getD 0)) }

def ioEff (x : IOC) : GEff := ⟨GName.inputOutputCoins, [.bankIn x.input, .bankOuts x.outputs]⟩

/-- the transfers the translated code issues: ascending bidder order, zero amounts skipped -/
def payoutEffs (src : Addr) (d : Denom) (keys : List Acc) (m : Acc → Option Int) : List GEff :=
  ((Go.sortAcc keys).filter (fun u => decide ((m u).getD 0 ≠ 0))).map (fun u => ioEff (iocOf src d m u))

theorem sortAcc_perm (l : List Acc) : (Go.sortAcc l).Perm l := List.mergeSort_perm _ _

theorem sortAcc_pairwise (l : List Acc) : (Go.sortAcc l).Pairwise (fun a b => a ≤ b) := by
  have h := List.pairwise_mergeSort (le := fun (a b : Acc) => decide (a ≤ b))
    (by intro a b c; simp only [decide_eq_true_eq]; exact Nat.le_trans)
    (by intro a b; simp only [Bool.or_eq_true, decide_eq_true_eq]; exact Nat.le_total a b) l
  simpa [Go.sortAcc] using h

theorem sortAcc_congr {l l' : List Acc} (hp : l.Perm l') : Go.sortAcc l = Go.sortAcc l' := by
  apply List.Perm.eq_of_pairwise (le := fun (a b : Acc) => a ≤ b)
  · intro a b _ _ h1 h2; exact Nat.le_antisymm h1 h2
  · exact sortAcc_pairwise l
  · exact sortAcc_pairwise l'
  · exact (sortAcc_perm l).trans (hp.trans (sortAcc_perm l').symm)

theorem sortAcc_nodup {keys : List Acc} (hnd : keys.Nodup) : (Go.sortAcc keys).Nodup :=
  (sortAcc_perm keys).symm.nodup hnd

theorem sortAcc_valid {keys : List Acc} (hv : ∀ u ∈ keys, validAcc u = true) :
    ∀ u ∈ Go.sortAcc keys, validAcc u = true :=
  fun u hu => hv u ((sortAcc_perm keys).mem_iff.mp hu)

/-! ### the three loops of a payout

  `AllocateSellingCoin` and `RefundPayingCoin` are the same three loops up to the map read
  (`m`), the reserve address (`src`) and the denomination (`d`).  Each lemma is about ANY function
  that satisfies the equations the induction uses; the translated loops satisfy them by
  unfolding, whatever the order of their `let`s and tests. -/
namespace Payout
variable {ρ σ : Type}

/-- `for k := range m { ks = append(ks, k) }` -/
theorem keys_spec (f : List Acc → List Acc → σ → Loop ρ (List Acc × σ))
    (h0 : ∀ acc s, f [] acc s = Loop.done (acc, s))
    (h1 : ∀ k ks acc s, f (k :: ks) acc s = f ks (acc ++ [k]) s) (keys acc : List Acc) (s : σ) :
    f keys acc s = Loop.done (acc ++ keys, s) := by
  induction keys generalizing acc with
  | nil => simp [h0]
  | cons k ks ih => simp [h1, ih]

/-- the loop that fills `ioCoins`: zero amounts are skipped (`hz`), a valid bidder met for the
    first time gets a fresh entry (`hn`); over duplicate-free keys nothing else happens -/
theorem fill_spec (f : List Acc → (Acc → Option IOC) → σ → Loop ρ ((Acc → Option IOC) × σ))
    (src : Addr) (d : Denom) (m : Acc → Option Int)
    (h0 : ∀ io s, f [] io s = Loop.done (io, s))
    (hz : ∀ k ks io s, (m k).getD 0 = 0 → f (k :: ks) io s = f ks io s)
    (hn : ∀ k ks io s, (m k).getD 0 ≠ 0 → validAcc k = true → io k = none →
      f (k :: ks) io s = f ks (Go.mapSet io k (iocOf src d m k)) s)
    (L : List Acc) (io : Acc → Option IOC) (s : σ)
    (hnd : L.Nodup) (hv : ∀ u ∈ L, validAcc u = true) (hio : ∀ u ∈ L, io u = none) :
    f L io s = Loop.done
      (fun u => if u ∈ L ∧ (m u).getD 0 ≠ 0 then some (iocOf src d m u) else io u, s) := by
  induction L generalizing io with
  | nil => simp [h0]
  | cons k ks ih =>
    obtain ⟨hk, hnd'⟩ := List.nodup_cons.mp hnd
    have hv' := fun u hu => hv u (List.mem_cons_of_mem k hu)
    have hio' : ∀ v, ∀ u ∈ ks, Go.mapSet io k v u = none := fun v u hu => by
      have : u ≠ k := by rintro rfl; exact hk hu
      simp [Go.mapSet, this, hio u (List.mem_cons_of_mem k hu)]
    by_cases hm : (m k).getD 0 = 0
    · rw [hz _ _ _ _ hm, ih io hnd' hv' (fun u hu => hio u (List.mem_cons_of_mem k hu))]
      congr 2; funext u
      by_cases hu : u = k <;> simp [hu, hm]
    · rw [hn _ _ _ _ hm (hv k (by simp)) (hio k (by simp)), ih _ hnd' hv' (hio' _)]
      congr 2; funext u
      by_cases hu : u = k <;> simp [Go.mapSet, hu, hm, hk]

/-- the loop that sends: one `InputOutputCoins` per key with an entry, in key order -/
theorem send_spec (f : (Acc → Option IOC) → List Acc → List GEff → Loop ρ (List GEff))
    (h0 : ∀ io effs, f io [] effs = Loop.done effs)
    (hs : ∀ io k ks effs, io k = none → f io (k :: ks) effs = f io ks effs)
    (hn : ∀ io k ks effs x, io k = some x → f io (k :: ks) effs = f io ks (effs ++ [ioEff x]))
    (io : Acc → Option IOC) (L : List Acc) (effs : List GEff) :
    f io L effs = Loop.done (effs ++ L.filterMap (fun u => (io u).map ioEff)) := by
  induction L generalizing effs with
  | nil => simp [h0]
  | cons k ks ih =>
    cases hk : io k with
    | none => simp [hs _ _ _ _ hk, ih, hk]
    | some x => simp [hn _ _ _ _ _ hk, ih, hk]

/-- what the sending loop issues for the map the filling loop built from the empty one -/
theorem effs_eq (src : Addr) (d : Denom) (keys : List Acc) (m : Acc → Option Int) :
    (Go.sortAcc keys).filterMap (fun u => (if u ∈ Go.sortAcc keys ∧ (m u).getD 0 ≠ 0
        then some (iocOf src d m u) else none).map ioEff) = payoutEffs src d keys m := by
  unfold payoutEffs
  generalize Go.sortAcc keys = L
  rw [← List.filterMap_eq_filter, List.map_filterMap]
  apply filterMap_congr
  intro u hu
  by_cases hm : (m u).getD 0 = 0 <;> simp [hu, hm, Option.guard, ioEff, iocOf]

end Payout

/-- `AllocateSellingCoin`, as a plan: the hook first, then the transfers.  `hv`: the map keys
    are account addresses (they are bidders of recorded bids). -/
theorem tie_AllocateSellingCoin_plan (a : Auction) (g : MInfoG) (keys : List Acc) (hnd : keys.Nodup)
    (hv : ∀ u ∈ keys, validAcc u = true) :
    Gen.AllocateSellingCoin a g keys =
      (false, ⟨GName.beforeSellingCoinsAllocated, [.int (a.id : Int), .amap g.alloc, .amap g.refund]⟩ ::
              payoutEffs (.sell a.id) a.sellDenom keys g.alloc) := by
  unfold Gen.AllocateSellingCoin
  simp only [Payout.keys_spec (AllocateSellingCoin.loop1 g) (fun _ _ => rfl) (fun _ _ _ _ => rfl),
    Payout.fill_spec (AllocateSellingCoin.loop2 a g) (.sell a.id) a.sellDenom g.alloc
      (by simp [AllocateSellingCoin.loop2]) (by intros; simp [AllocateSellingCoin.loop2, *])
      (by intros; simp [AllocateSellingCoin.loop2, iocOf, *]) _ _ _
      (sortAcc_nodup hnd) (sortAcc_valid hv) (fun _ _ => rfl),
    Payout.send_spec AllocateSellingCoin.loop3 (by simp [AllocateSellingCoin.loop3])
      (by intros; simp [AllocateSellingCoin.loop3, *]) (by intros; simp [AllocateSellingCoin.loop3, ioEff, *]),
    Payout.effs_eq, List.nil_append, List.singleton_append]

theorem tie_RefundPayingCoin_plan (a : Auction) (g : MInfoG) (keys : List Acc) (hnd : keys.Nodup)
    (hv : ∀ u ∈ keys, validAcc u = true) :
    Gen.RefundPayingCoin a g keys = (false, payoutEffs (.pay a.id) a.payDenom keys g.refund) := by
  unfold Gen.RefundPayingCoin
  simp only [Payout.keys_spec (RefundPayingCoin.loop1 g) (fun _ _ => rfl) (fun _ _ _ _ => rfl),
    Payout.fill_spec (RefundPayingCoin.loop2 a g) (.pay a.id) a.payDenom g.refund
      (by simp [RefundPayingCoin.loop2]) (by intros; simp [RefundPayingCoin.loop2, *])
      (by intros; simp [RefundPayingCoin.loop2, iocOf, *]) _ _ _
      (sortAcc_nodup hnd) (sortAcc_valid hv) (fun _ _ => rfl),
    Payout.send_spec RefundPayingCoin.loop3 (by simp [RefundPayingCoin.loop3])
      (by intros; simp [RefundPayingCoin.loop3, *]) (by intros; simp [RefundPayingCoin.loop3, ioEff, *]),
    Payout.effs_eq, List.nil_append]

theorem tie_AllocateSellingCoin_order_independent (a : Auction) (g : MInfoG) (keys keys' : List Acc)
    (hnd : keys.Nodup) (hp : keys.Perm keys') (hv : ∀ u ∈ keys, validAcc u = true) :
    Gen.AllocateSellingCoin a g keys = Gen.AllocateSellingCoin a g keys' := by
  rw [tie_AllocateSellingCoin_plan a g keys hnd hv,
    tie_AllocateSellingCoin_plan a g keys' (hp.nodup hnd) (fun u hu => hv u (hp.mem_iff.mpr hu))]
  simp [payoutEffs, sortAcc_congr hp]

theorem tie_RefundPayingCoin_order_independent (a : Auction) (g : MInfoG) (keys keys' : List Acc)
    (hnd : keys.Nodup) (hp : keys.Perm keys') (hv : ∀ u ∈ keys, validAcc u = true) :
    Gen.RefundPayingCoin a g keys = Gen.RefundPayingCoin a g keys' := by
  rw [tie_RefundPayingCoin_plan a g keys hnd hv,
    tie_RefundPayingCoin_plan a g keys' (hp.nodup hnd) (fun u hu => hv u (hp.mem_iff.mpr hu))]
  simp [payoutEffs, sortAcc_congr hp]

theorem payOut_runIO (src : Addr) (d : Denom) (m : Acc → Option Int) (L : List Acc) (c : Ctx) :
    payOut c src d (L.map (fun u => (u, (m u).getD 0))) =
      runIO ((L.filter (fun u => decide ((m u).getD 0 ≠ 0))).map (fun u => ioEff (iocOf src d m u))) c := by
  induction L generalizing c with
  | nil => simp [payOut, runIO]
  | cons k ks ih =>
    by_cases hz : (m k).getD 0 = 0
    · simp [payOut, hz, ih]
    · simp only [List.map_cons, payOut, hz, if_false, List.filter_cons, ne_eq, not_false_eq_true, decide_true, if_true, runIO, ioEff, iocOf]
      cases hmk : mkCoins c d ((m k).getD 0) with
      | error e => rfl
      | ok coins =>
        simp only [bind, Except.bind]
        cases hb : c.bankCall .io src (.user k) coins with
        | error e => rfl
        | ok c' => exact ih c'

/-- the model's `payOut` over the list the model keeps (keys ascending) is the interpretation
    of the translated transfers, whenever that list is the Go map read in sorted key order -/
theorem tie_payOut (c : Ctx) (src : Addr) (d : Denom) (keys : List Acc) (m : Acc → Option Int) (l : List (Acc × Int))
    (hl : l = (Go.sortAcc keys).map (fun u => (u, (m u).getD 0))) :
    payOut c src d l = runIO (payoutEffs src d keys m) c := by
  subst hl; exact payOut_runIO src d m _ c

/-- `.tail` drops the first recorded call, `BeforeSellingCoinsAllocated`: no interpreter arm reads it,
    and the hook on the right is the model's, with the model's arguments.  That the code passes
    these arguments at this call site (`tie_AllocateSellingCoin_plan` shows which it records) is
    not part of this statement. -/
theorem tie_AllocateSellingCoin (c : Ctx) (a : Auction) (mi : MInfo) (g : MInfoG) (keys : List Acc)
    (hnd : keys.Nodup) (hv : ∀ u ∈ keys, validAcc u = true)
    (hl : mi.alloc = (Go.sortAcc keys).map (fun u => (u, (g.alloc u).getD 0))) :
    allocateSellingCoin c a mi =
      (c.hook "BeforeSellingCoinsAllocated" ([rNat a.id] ++ rAmtMap mi.alloc ++ rAmtMap mi.refund) >>= fun c =>
        runIO (Gen.AllocateSellingCoin a g keys).2.tail c) := by
  rw [tie_AllocateSellingCoin_plan a g keys hnd hv]
  unfold allocateSellingCoin
  simp only [List.tail_cons]
  congr 1; funext c'
  exact tie_payOut c' _ _ keys g.alloc _ hl

theorem tie_RefundPayingCoin (c : Ctx) (a : Auction) (mi : MInfo) (g : MInfoG) (keys : List Acc)
    (hnd : keys.Nodup) (hv : ∀ u ∈ keys, validAcc u = true)
    (hl : mi.refund = (Go.sortAcc keys).map (fun u => (u, (g.refund u).getD 0))) :
    refundPayingCoin c a mi = runIO (Gen.RefundPayingCoin a g keys).2 c := by
  rw [tie_RefundPayingCoin_plan a g keys hnd hv]
  unfold refundPayingCoin
  exact tie_payOut c _ _ keys g.refund _ hl

end Fundraising
