import Fundraising.Generated.Tables
import Fundraising.Tables.Chars
/-
  The translator reads `x.GetF()` as "field F of x" and `x.SetF(v)` as "x with F := v" (its field and
  mutator tables).  The table `accessors` is re-extracted from types/*.go on every run: which
  fields of its receiver each `Get…` / `Set…` method reads and assigns.  Every one is faithful to
  its name, and every accessor the translator's tables know is among them.
-/
namespace Fundraising
open Fundraising.Tables Fundraising.Generated

/-- `Accessor.faithful` on the characters of the names (Tables/Chars.lean says why) -/
def faithfulChars (plain fromParam : Bool) (name : List Char) (reads writes : List (List Char)) : Bool :=
  let field := if name == "SetMatched".toList then "IsMatched".toList else name.drop 3
  plain &&
  (if "Get".toList.isPrefixOf name then reads == [field] && writes == []
   else writes == [field] && reads == [] && fromParam)

theorem Accessor.faithful_eq (a : Accessor) : a.faithful =
    faithfulChars a.plain a.fromParam a.name.toList (a.reads.map String.toList) (a.writes.map String.toList) := by
  simp only [Accessor.faithful, Accessor.field, faithfulChars, startsWith_eq_isPrefixOf, beq_eq_map_toList_beq,
    beq_eq_toList_beq a.name, List.map_cons, List.map_nil, apply_ite String.toList, String.Slice.toString,
    String.toList_copy_drop]

theorem tie_accessors_faithful : accessors.all Accessor.faithful = true := by
  simp -index only [accessors, List.all_cons, List.all_nil, Accessor.faithful_eq, List.map_cons, List.map_nil,
    String.toList_ofList]
  decide +kernel

/-- the accessors the translator's tables give a meaning to are all there (and, by the theorem
    above, mean what the tables say); further accessors may be added freely -/
theorem tie_accessors_known :
    ([("AllowedBidder", "GetBidder"),
      ("BaseAuction", "GetAuctioneer"), ("BaseAuction", "GetEndTimes"), ("BaseAuction", "GetId"),
      ("BaseAuction", "GetPayingCoinDenom"), ("BaseAuction", "GetPayingReserveAddress"),
      ("BaseAuction", "GetSellingCoin"), ("BaseAuction", "GetSellingReserveAddress"),
      ("BaseAuction", "GetStartPrice"), ("BaseAuction", "GetStartTime"), ("BaseAuction", "GetStatus"),
      ("BaseAuction", "GetType"), ("BaseAuction", "GetVestingReserveAddress"), ("BaseAuction", "GetVestingSchedules"),
      ("BaseAuction", "SetStatus"), ("BaseAuction", "SetEndTimes"),
      ("Bid", "GetBidder"), ("Bid", "SetMatched"), ("VestingQueue", "SetReleased")] : List (String × String)).all
      (fun p => accessors.any (fun a => a.recv == p.1 && a.name == p.2)) = true := by decide +kernel

/-- the four `Iterate…` methods of the keeper walk the WHOLE collection of their name, handing the
    callback through (what the translation of `Auctions()`, `Bids()`, … assumes of them) -/
theorem tie_iterators :
    iterators.map (fun i => (i.name, i.coll, i.walksAll)) =
      [("IterateAllowedBidders", "AllowedBidder", true), ("IterateAuctions", "Auction", true),
       ("IterateBids", "Bid", true), ("IterateVestingQueues", "VestingQueue", true)] := rfl

end Fundraising
