import Fundraising.Generated.Code.Invariants
import Fundraising.Proofs.Tie.Getters
import Fundraising.Proofs.Tie.Pure
import Fundraising.Proofs.EscrowProofs
import Fundraising.Props.C01
/-
  The module's own invariants (keeper/invariants.go), TRANSLATED from the Go source on every run
  (Generated/Code/Invariants.lean: the closure each `…Invariant(k)` returns, store-threaded, the
  bank balance an oracle function of the address the code passes), are the model's functions
  (Model/ModuleInv.lean) on the store of a model state — and no reachable state breaks them.
-/
namespace Fundraising
open Fundraising.Gen Fundraising.Go

/-- record id = key: all the ties need from `WF` -/
def IdsOK (s : Core) : Prop := ∀ (i : Nat) (v : AView), s.views[i]? = some v → v.a.id = i

theorem IdsOK_of_WF {s : Core} (h : WF s) : IdsOK s := fun i v hv => (h.views i v hv).id

namespace TieInv

/-- the count of the failing auctions is zero iff none fails (the code reports `broken` when its
    count is not zero) -/
theorem count_eq_zero {α : Type} (l : List α) (p : α → Bool) :
    decide (((l.filter p).length : Int) = 0) = !l.any p := by
  induction l with
  | nil => simp
  | cons x xs ih =>
    cases hp : p x
    · simpa [List.filter_cons, hp] using ih
    · simp [hp]; omega

theorem view_lookup {s : Core} (h : IdsOK s) {v : AView} (hv : v ∈ s.views) :
    viewAt s (v.a.id : Int) = some v := by
  obtain ⟨i, hi⟩ := List.mem_iff_getElem?.mp hv
  have := h i v hi
  rw [viewAt_nat, this, hi]

theorem rdBids_mem {s : Core} (h : IdsOK s) {v : AView} (hv : v ∈ s.views) :
    rdBids s (v.a.id : Int) = v.bids := by
  simp [rdBids, view_lookup h hv]

theorem rdVqs_mem {s : Core} (h : IdsOK s) {v : AView} (hv : v ∈ s.views) :
    rdVqs s (v.a.id : Int) = v.vqs := by
  simp [rdVqs, view_lookup h hv]

/-- a loop of an invariant over the auctions, for ANY function with these equations: one more
    for every auction whose check fails -/
theorem count_spec {ρ σ : Type} (f : List Auction → Int → σ → Loop ρ (Int × σ)) (holds : AView → Bool)
    (st : σ) (vs : List AView) (h0 : ∀ c, f [] c st = Loop.done (c, st))
    (h1 : ∀ v ∈ vs, ∀ rest c, f (v.a :: rest) c st = f rest (if holds v then c else c + 1) st) (count : Int) :
    f (vs.map (·.a)) count st =
      Loop.done (count + ((vs.filter (fun v => !holds v)).length : Int), st) := by
  induction vs generalizing count with
  | nil => simp [h0]
  | cons v vs ih =>
    rw [List.map_cons, h1 v (by simp), ih (fun w hw => h1 w (by simp [hw]))]
    cases hv : holds v <;> simp [hv] <;> omega

theorem SellingPoolReserveAmountInvariant_loop1_count (s : Core) (vs : List AView) (count : Int) (st : GStore) :
    SellingPoolReserveAmountInvariant.loop1 s.bank (vs.map (·.a)) count st =
      Loop.done (count + ((vs.filter (fun v => !sellingInvHolds s v)).length : Int), st) := by
  refine count_spec _ _ st vs (fun _ => rfl) (fun v _ rest c => ?_) count
  by_cases hst : v.a.status = Status.started <;>
    by_cases hle : v.a.sellAmt ≤ s.bank (Addr.sell v.a.id) v.a.sellDenom <;>
    simp [SellingPoolReserveAmountInvariant.loop1, sellingInvHolds, hst, hle]

theorem PayingPoolReserveAmountInvariant_loop2_sum (a : Auction) (l : List Bid) (acc : Coin) (st : GStore) :
    PayingPoolReserveAmountInvariant.loop2 a l acc st =
      Loop.done (⟨acc.denom, acc.amt + (l.map (·.toPaying a.payDenom)).sum⟩, st) := by
  induction l generalizing acc with
  | nil => simp [PayingPoolReserveAmountInvariant.loop2]
  | cons b l ih =>
    simp only [PayingPoolReserveAmountInvariant.loop2, ih, tie_ConvertToPayingAmount,
      List.map_cons, List.sum_cons, Int.add_assoc]

theorem PayingPoolReserveAmountInvariant_loop1_count (s : Core) (h : IdsOK s) (err : Bool) (vs : List AView)
    (hvs : ∀ v ∈ vs, v ∈ s.views) (count : Int) :
    PayingPoolReserveAmountInvariant.loop1 s.bank err (vs.map (·.a)) count (storeOf s) =
      Loop.done (count + ((vs.filter (fun v => !payingInvHolds s v)).length : Int), storeOf s) := by
  refine count_spec _ _ _ vs (fun _ => rfl) (fun v hv rest c => ?_) count
  simp only [PayingPoolReserveAmountInvariant.loop1, tie_GetBidsByAuctionId, rdBids_mem h (hvs v hv), PayingPoolReserveAmountInvariant_loop2_sum]
  -- an open auction's paying reserve covers its bids; any other auction's is not negative
  by_cases hst : v.a.status = Status.started
  · by_cases hle : (v.bids.map (·.toPaying v.a.payDenom)).sum ≤ s.bank (Addr.pay v.a.id) v.a.payDenom <;>
      simp [payingInvHolds, invTotalBid, hst, hle]
  · by_cases hle : 0 ≤ s.bank (Addr.pay v.a.id) v.a.payDenom <;>
      simp [payingInvHolds, invTotalBid, hst, hle]

theorem VestingPoolReserveAmountInvariant_loop2_sum (l : List VQ) (acc : Coin) (st : GStore) :
    VestingPoolReserveAmountInvariant.loop2 l acc st =
      Loop.done (⟨acc.denom, acc.amt + ((l.filter (fun q => !q.released)).map (·.amt)).sum⟩, st) := by
  induction l generalizing acc with
  | nil => simp [VestingPoolReserveAmountInvariant.loop2]
  | cons q l ih =>
    cases hq : q.released
    · simp [VestingPoolReserveAmountInvariant.loop2, ih, hq, Int.add_assoc]
    · simp [VestingPoolReserveAmountInvariant.loop2, ih, hq]

theorem VestingPoolReserveAmountInvariant_loop1_count (s : Core) (h : IdsOK s) (err : Bool) (vs : List AView)
    (hvs : ∀ v ∈ vs, v ∈ s.views) (count : Int) :
    VestingPoolReserveAmountInvariant.loop1 s.bank err (vs.map (·.a)) count (storeOf s) =
      Loop.done (count + ((vs.filter (fun v => !vestingInvHolds s v)).length : Int), storeOf s) := by
  refine count_spec _ _ _ vs (fun _ => rfl) (fun v hv rest c => ?_) count
  simp only [VestingPoolReserveAmountInvariant.loop1, tie_GetVestingQueuesByAuctionId, rdVqs_mem h (hvs v hv),
    VestingPoolReserveAmountInvariant_loop2_sum]
  -- a vesting auction's reserve covers the unreleased instalments; any other auction's is not negative
  by_cases hst : v.a.status = Status.vesting
  · by_cases hle : ((v.vqs.filter (fun q => !q.released)).map (·.amt)).sum ≤ s.bank (Addr.vest v.a.id) v.a.payDenom <;>
      simp [vestingInvHolds, invTotalVesting, hst, hle]
  · by_cases hle : 0 ≤ s.bank (Addr.vest v.a.id) v.a.payDenom <;>
      simp [vestingInvHolds, invTotalVesting, hst, hle]

end TieInv
open TieInv

theorem tie_SellingPoolReserveAmountInvariant (s : Core) :
    Gen.SellingPoolReserveAmountInvariant s.bank (storeOf s) = ("", sellingInvBroken s, storeOf s) := by
  unfold Gen.SellingPoolReserveAmountInvariant
  simp only [tie_Auctions, SellingPoolReserveAmountInvariant_loop1_count, Int.zero_add, count_eq_zero, sellingInvBroken]
  simp

/-- `PayingPoolReserveAmountInvariant`: the bids it adds up are read with
    `GetBidsByAuctionId(auction.GetId())`, so the record's id must be the key it is filed under (`h`) -/
theorem tie_PayingPoolReserveAmountInvariant (s : Core) (h : IdsOK s) :
    Gen.PayingPoolReserveAmountInvariant s.bank (storeOf s) = ("", payingInvBroken s, storeOf s) := by
  unfold Gen.PayingPoolReserveAmountInvariant
  simp only [tie_Auctions, PayingPoolReserveAmountInvariant_loop1_count s h _ s.views (fun _ hv => hv), Int.zero_add, count_eq_zero, payingInvBroken]
  simp

theorem tie_VestingPoolReserveAmountInvariant (s : Core) (h : IdsOK s) :
    Gen.VestingPoolReserveAmountInvariant s.bank (storeOf s) = ("", vestingInvBroken s, storeOf s) := by
  unfold Gen.VestingPoolReserveAmountInvariant
  simp only [tie_Auctions, VestingPoolReserveAmountInvariant_loop1_count s h _ s.views (fun _ hv => hv), Int.zero_add, count_eq_zero, vestingInvBroken]
  simp

/-- the hypotheses hold of every reachable state (`C01_reach_facts`) -/
theorem code_invariants_hold (s : Core) (hw : WF s) (hc : AllCovered s) (hn : BankNonneg s) :
    (Gen.SellingPoolReserveAmountInvariant s.bank (storeOf s)).2.1 = false ∧
    (Gen.PayingPoolReserveAmountInvariant s.bank (storeOf s)).2.1 = false ∧
    (Gen.VestingPoolReserveAmountInvariant s.bank (storeOf s)).2.1 = false := by
  have hi := IdsOK_of_WF hw
  have hb := invariants_of_covered s hw hc hn
  simp only [allInvariantsBroken, Bool.or_eq_false_iff] at hb
  rw [tie_SellingPoolReserveAmountInvariant, tie_PayingPoolReserveAmountInvariant s hi,
    tie_VestingPoolReserveAmountInvariant s hi]
  exact ⟨hb.1.1, hb.1.2, hb.2⟩

/-- `AllInvariants`: the loop over the literal list of the three functions is unrolled by the
    translator -/
theorem tie_AllInvariants (s : Core) (h : IdsOK s) :
    Gen.AllInvariants s.bank (storeOf s) = ("", allInvariantsBroken s, storeOf s) := by
  unfold Gen.AllInvariants
  simp only [tie_SellingPoolReserveAmountInvariant, tie_PayingPoolReserveAmountInvariant s h,
    tie_VestingPoolReserveAmountInvariant s h, allInvariantsBroken]
  cases sellingInvBroken s <;> cases payingInvBroken s <;> cases vestingInvBroken s <;> simp

/-- C01 at the level of the translated code: in EVERY reachable state — any history of
    messages, keeper calls, third-party transfers, blocks and genesis round trips — each of the
    module's three registered invariants, as translated from keeper/invariants.go, reports
    "not broken" on that state's store and balances. -/
theorem code_C01_module_invariants_hold (st : State) (h : Reach st) :
    (Gen.SellingPoolReserveAmountInvariant st.core.bank (storeOf st.core)).2.1 = false ∧
    (Gen.PayingPoolReserveAmountInvariant st.core.bank (storeOf st.core)).2.1 = false ∧
    (Gen.VestingPoolReserveAmountInvariant st.core.bank (storeOf st.core)).2.1 = false := by
  obtain ⟨hc, hw, hn⟩ := C01_reach_facts st h
  exact code_invariants_hold st.core hw hc hn

end Fundraising
