import Fundraising.Proofs.Tie.Pure
/-
  Tie of `types.ValidateVestingSchedules` (a loop with four early returns), in a module of its
  own: a tie that stops checking takes the modules that import it with it, so the ties are cut
  along what uses what — only the create-auction message and genesis validation read schedules.
-/
namespace Fundraising
open Fundraising.Gen

/-- the loop, up to the release time it carries along (which nothing reads after it) -/
theorem ValidateVestingSchedules_loop1_eq (endTime : Int) (vs : List VS) (prev : Int) (tot : Dec) :
    ∃ last, ValidateVestingSchedules.loop1 endTime vs prev tot =
      match validSchedulesLoop endTime vs prev tot with
      | none => Loop.ret true
      | some tot' => Loop.done (last, tot') := by
  induction vs generalizing prev tot with
  | nil => exact ⟨prev, by simp [ValidateVestingSchedules.loop1, validSchedulesLoop]⟩
  | cons s rest ih =>
    obtain ⟨last, h⟩ := ih s.release (tot + s.weight)
    refine ⟨last, ?_⟩
    unfold ValidateVestingSchedules.loop1 validSchedulesLoop
    rw [h]
    clear h ih
    grind

theorem tie_ValidateVestingSchedules (vs : List VS) (endTime : Int) :
    ValidateVestingSchedules vs endTime = !validSchedules vs endTime := by
  obtain ⟨last, h⟩ := ValidateVestingSchedules_loop1_eq endTime vs TIME_ZERO 0
  have h0 : Go.parseTime "0001-01-01T00:00:00Z" = TIME_ZERO := rfl
  simp only [ValidateVestingSchedules, validSchedules, h0, h]
  cases vs with
  | nil => simp
  | cons s rest =>
    have hne : ¬ ((rest.length : Int) + 1 = 0) := by omega
    cases validSchedulesLoop endTime (s :: rest) TIME_ZERO 0 with
    | none => simp [hne]
    | some v => by_cases e : v = Dec.one <;> simp [hne, e]

end Fundraising
