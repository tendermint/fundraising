import Fundraising.Generated.Code.Export
import Fundraising.Proofs.Tie.Genesis
import Fundraising.Proofs.Tie.Store
/-
  Tie of the translated `ExportGenesis` (module/genesis.go) to `exportGenesis` of
  Model/Genesis.lean: every collection walked in key order (`coll.Walk(ctx, nil, closure)` becomes a
  fold of the closure body over the records of the collection), on the store laid out as the model's
  state (Tables/GoStore.lean).
-/
namespace Fundraising
open Fundraising.Gen Fundraising.Go

theorem tie_ExportGenesis (s : Core) :
    Gen.ExportGenesis (storeOf s) = (toG (exportGenesis s), false, storeOf s) := by
  unfold Gen.ExportGenesis
  -- each of the four closures appends the record it visits to one list of the genesis
  simp only [foldl_walk ExportGenesis.walk1 (fun g l => { g with allowed := g.allowed ++ l }) (by simp)
      (by simp [ExportGenesis.walk1]),
    foldl_walk ExportGenesis.walk2 (fun g l => { g with vqs := g.vqs ++ l }) (by simp) (by simp [ExportGenesis.walk2]),
    foldl_walk ExportGenesis.walk3 (fun g l => { g with bids := g.bids ++ l }) (by simp) (by simp [ExportGenesis.walk3]),
    foldl_walk ExportGenesis.walk4 (fun g l => { g with auctions := g.auctions ++ l }) (by simp)
      (by simp [ExportGenesis.walk4]), paramsGet_storeOf, Go.defaultGenesis, toG, exportGenesis]
  simp [List.map_flatMap, Function.comp_def]
  -- an empty fee list is replaced by the default, which is the empty list
  have hd : (default : List Coin) = [] := rfl
  rcases hp : s.params with ⟨cf, bf, per⟩
  -- (the store is the function's own only once the fee tests are decided)
  cases cf <;> cases bf <;>
    simp [hd, allAuctions_storeOf, allAllowed_storeOf, allBids_storeOf, allVqs_storeOf]

end Fundraising
