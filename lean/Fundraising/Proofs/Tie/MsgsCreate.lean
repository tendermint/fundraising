import Fundraising.Generated.Code.Msgs
import Fundraising.Proofs.Tie.PureSched
/-
  `ValidateBasic` of the two create-auction messages (they validate vesting schedules: the only
  message ties that depend on `Tie/PureSched`).
-/
namespace Fundraising
open Fundraising.Gen

theorem tie_ValidateBasic_createFixed (m : CreateMsg) (h : m.type = .fixed) :
    MsgCreateFixedPriceAuction_ValidateBasic m = !validateBasic (.create m) := by
  unfold MsgCreateFixedPriceAuction_ValidateBasic validateBasic validCoin
  rw [tie_ValidateVestingSchedules]
  simp only [h]
  grind (splits := 40)

theorem tie_ValidateBasic_createBatch (m : CreateMsg) (h : m.type = .batch) :
    MsgCreateBatchAuction_ValidateBasic m = !validateBasic (.create m) := by
  unfold MsgCreateBatchAuction_ValidateBasic validateBasic validCoin
  rw [tie_ValidateVestingSchedules]
  simp only [h]
  grind (splits := 40)

end Fundraising
