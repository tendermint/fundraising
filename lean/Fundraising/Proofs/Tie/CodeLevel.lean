import Fundraising.Proofs.Tie.Refinement
import Fundraising.Proofs.Tie.Auctions
import Fundraising.Proofs.Reach
import Fundraising.Proofs.WFProofs
import Fundraising.Props.C01
import Fundraising.Props.C07
import Fundraising.Props.C18
/-
  The system as the TRANSLATED code runs it, and the theorem that it is the model.

  `stepT` is `Model/Step.step` with the module's own operations replaced by the interpretation of
  the code translated from /repo's Go source on this run: a delivered message is
  `translatedDeliver` (ValidateBasic → msgServer → Keeper), a block is `translatedBlock`
  (the translated `BeginBlocker` over the snapshot of auctions, then the translated executor of each),
  the keeper-API call `AddAllowedBidders` is the translated `Keeper.AddAllowedBidders`.  The block
  side is NOT one composition of translated definitions: what an executor calls in turn (`.closeFixed`,
  `.closeBatch`, `.extendRound`, `.allocateSellingCoin`, `.refundRemainingSellingCoin`,
  `.refundPayingCoin`, `.applyVestingSchedules`, `.calcBatch`) `Go.applySettle` runs by the MODEL's
  function of that name, and each of those is tied to its translated function by a theorem of its own
  (Proofs/Tie/Settle, Vesting, Payout, BatchAlloc); no Lean theorem composes them, bin/check lists them.
  Three module operations `stepT` leaves to the model's `step`: `kupd` (`tie_UpdateAllowedBidder` exists
  but is not wired in), `genesis` and `query` (tied in Proofs/Tie/GenesisRoundTrip, Import, Export,
  Queries).  The rest (funding and gifts by third parties, the test controls) is the environment.

  `runT_eq_run`: from the initial state, any history gives the same state under `stepT` and under
  `step`.  Hence every theorem about reachable states of the model (`Props/C01 … C19`) is a theorem
  about the states the translated code reaches: `ReachT st ↔ Reach st`.
-/
namespace Fundraising
open Fundraising.Gen Fundraising.Go

/-- the keeper-API call `AddAllowedBidders` by the translated code, on the view the store files under `aid` -/
def translatedKadd (c : Ctx) (aid : Nat) (abs : List AllowedArg) : M Ctx :=
  Go.runPlanAt c aid (Gen.AddAllowedBidders (aid : Int) abs (Go.rdAuction c.s))

def stepT (st : State) : Op → Outcome × State
  | .msg m => runAtomic st true (fun c => translatedDeliver c m)
  | .kadd aid abs => runAtomic st true (fun c => translatedKadd c aid abs)
  | .block t =>
    let st := { st with core := { st.core with now := t } }
    runAtomic st false (fun c => translatedBlock c t)
  | op => step st op

def runT (st : State) (ops : List Op) : State := ops.foldl (fun s op => (stepT s op).2) st

def ReachT (st : State) : Prop := ∃ ops : List Op, runT {} ops = st

theorem translatedKadd_eq (c : Ctx) (hwf : WF c.s) (aid : Nat) (abs : List AllowedArg) :
    addAllowedBidders c aid abs = translatedKadd c aid abs := by
  unfold translatedKadd Go.runPlanAt
  cases hv : c.s.views[aid]? with
  | none =>
    obtain ⟨h1, h2⟩ := tie_AddAllowedBidders_noAuction c aid abs hv
    simp [h1, h2]
  | some v => simpa using tie_AddAllowedBidders c aid abs v hv (hwf.views aid v hv).id

theorem stepT_eq_step (st : State) (hwf : WF st.core) (op : Op) : stepT st op = step st op := by
  cases op with
  | msg m =>
    simp only [stepT, step, runAtomic]
    rw [← refinement_deliver { s := st.core, ctl := st.ctl } hwf m]
  | kadd aid abs =>
    simp only [stepT, step, runAtomic]
    rw [← translatedKadd_eq { s := st.core, ctl := st.ctl } hwf]
  | block t =>
    have hwf' : WF ({ st.core with now := t } : Core) := hwf.of_eqs rfl rfl rfl
    simp only [stepT, step, runAtomic]
    rw [← refinement_block { s := { st.core with now := t }, ctl := st.ctl } hwf' t]
  | _ => rfl

theorem runT_eq_run (ops : List Op) : runT {} ops = run {} ops := by
  have key : ∀ (ops : List Op) (st : State), Reach st → runT st ops = run st ops := by
    intro ops
    induction ops with
    | nil => intro st _; rfl
    | cons op ops ih =>
      intro st hr
      have e := stepT_eq_step st (wf_reach st hr) op
      simp only [runT, run, List.foldl_cons] at *
      rw [e]
      exact ih _ (reach_step hr op)
  exact key ops {} reach_init

theorem reachT_iff_reach (st : State) : ReachT st ↔ Reach st := by
  constructor
  · rintro ⟨ops, h⟩; exact ⟨ops, by rw [← runT_eq_run]; exact h⟩
  · rintro ⟨ops, h⟩; exact ⟨ops, by rw [runT_eq_run]; exact h⟩

/-! ### the property theorems, restated about the translated system

Each is the model's theorem transported along `reachT_iff_reach` / `stepT_eq_step`; they are
listed to make explicit what the chain of ties delivers: statements about what the code
translated from the current source does, for every history. -/

theorem code_C01_escrow_covered (st : State) (h : ReachT st) : AllCovered st.core :=
  C01_escrow_covered st ((reachT_iff_reach st).1 h)

theorem code_C01_escrow_exact (ops : List Op) (h : NoEscrowGifts ops) : AllExact (runT {} ops).core := by
  rw [runT_eq_run]; exact C01_escrow_exact ops h

theorem code_C07_block_never_fails (st : State) (h : ReachT st) (t : Int)
    (hf : st.ctl.failhook = none) (hk : st.ctl.fault = none) :
    (stepT st (.block t)).1.res = .ok := by
  have hr := (reachT_iff_reach st).1 h
  rw [stepT_eq_step st (wf_reach st hr)]
  exact C07_block_never_fails st hr t hf hk

theorem code_C18_accepted_iff_preconditions (st : State) (h : ReachT st) (m : Msg)
    (hf : st.ctl.failhook = none) (hk : st.ctl.fault = none) :
    (stepT st (.msg m)).1.res = .ok ↔ Accept st.core m := by
  have hr := (reachT_iff_reach st).1 h
  rw [stepT_eq_step st (wf_reach st hr)]
  exact C18_accepted_iff_preconditions st hr m hf hk

end Fundraising
