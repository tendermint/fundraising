import Fundraising.Generated.Code.Auctions
import Fundraising.Tables.GoRun
import Fundraising.Proofs.Tie.Pure
import Fundraising.Proofs.Exec
/-
  Tie of the translated `Keeper.CancelAuction`, `Keeper.AddAllowedBidders`,
  `Keeper.UpdateAllowedBidder` and `msgServer.AddAllowedBidder` (keeper/auction.go,
  keeper/msg_server.go) to the hand-written handlers of Model/Keeper.lean.
-/
namespace Fundraising
open Fundraising.Gen Fundraising.Go

/-- `bal` is what the selling reserve holds -/
def cancelPlan (v : AView) (signer : Acc) (bal : Int) : Bool × List GEff :=
  if v.a.auctioneer == signer && v.a.status == .standby then
    (false,
      [⟨.sendCoins, [.addr (.sell v.a.id), .nat v.a.auctioneer, .coin ⟨v.a.sellDenom, bal⟩]⟩,
       ⟨.beforeAuctionCanceled, [.int v.a.id, .nat signer]⟩,
       ⟨.auctionSet, [.int v.a.id, .auction { v.a with
          remaining := if v.a.type = .fixed then 0 else v.a.remaining, status := .cancelled }]⟩])
  else (true, [])

theorem cancelAuction_eq_plan (c : Ctx) (signer : Acc) (v : AView) (hv : c.s.views[v.a.id]? = some v) :
    cancelAuction c signer v.a.id =
      runPlan c v.a.id v (cancelPlan v signer (c.s.bank (.sell v.a.id) v.a.sellDenom)) := by
  unfold cancelAuction cancelPlan
  simp only [view_of hv, pure_bind, Ctx.bal, check_check]
  refine check_plan c (runPlan c v.a.id v) rfl fun _ => ?_
  simp only [runPlan_eq, runEffs_cons, runEffs_nil, applyEff, dstOf, bind_assoc, pure_bind, and_self, if_true,
    Int.toNat_natCast]
  rfl

/-- `Keeper.CancelAuction`.  `hid`: the stored auction carries its own key (`ViewWF.id`). -/
theorem tie_CancelAuction (c : Ctx) (signer : Acc) (aid : Nat) (v : AView) (hv : c.s.views[aid]? = some v)
    (hid : v.a.id = aid) :
    cancelAuction c signer aid = Go.runPlan c aid v (Gen.CancelAuction ⟨signer, aid⟩ (rdAuction c.s) c.s.bank) := by
  subst hid
  rw [cancelAuction_eq_plan c signer v hv]
  congr 1
  unfold Gen.CancelAuction cancelPlan
  simp [rdAuction_some hv]
  grind

theorem tie_CancelAuction_noAuction (c : Ctx) (signer : Acc) (aid : Nat) (hv : c.s.views[aid]? = none)
    (bal : Addr → Denom → Int) :
    cancelAuction c signer aid = c.fail ∧ Gen.CancelAuction ⟨signer, aid⟩ (rdAuction c.s) bal = (true, []) := by
  refine ⟨by rw [cancelAuction, view_none hv, fail_bind], ?_⟩
  simp [Gen.CancelAuction, rdAuction_none hv]

/-- the `AllowedBidder.Set` calls the loop of `AddAllowedBidders` records for `abs`, up to the first
    entry it refuses -/
def addPlan (aid : Nat) (sellAmt : Int) : List AllowedArg → Bool × List GEff
  | [] => (false, [])
  | ab :: rest =>
    if validAcc ab.bidder && (decide (ab.cap > 0) && !decide (ab.cap > sellAmt)) then
      ((addPlan aid sellAmt rest).1,
        ⟨.allowedSet, [.int aid, .nat ab.bidder, .allowed1 { ab with recAuction := aid }]⟩ :: (addPlan aid sellAmt rest).2)
    else (true, [])

private theorem AddAllowedBidders_loop1_code (a : Auction) (aid : Nat) (err : Bool) (abs : List AllowedArg) (effs : List GEff) :
    loopPlan (AddAllowedBidders.loop1 a (aid : Int) err abs effs) =
      ((addPlan aid a.sellAmt abs).1, effs ++ (addPlan aid a.sellAmt abs).2) := by
  induction abs generalizing effs with
  | nil => simp [AddAllowedBidders.loop1, loopPlan, addPlan]
  | cons ab rest ih =>
    unfold AddAllowedBidders.loop1 addPlan
    simp only [tie_AllowedBidder_Validate, apply_ite loopPlan, ih]
    clear ih
    simp [loopPlan]
    grind

private theorem AddAllowedBidders_loop1_model (aid : Nat) (s : Int) (abs : List AllowedArg) (c : Ctx) (v : AView)
    (hid : v.a.id = aid) :
    (addLoop c s abs v.allowed >>= fun l => pure (c.setView aid { v with allowed := l })) =
      runPlan c aid v (addPlan aid s abs) := by
  induction abs generalizing v with
  | nil => rfl
  | cons ab rest ih =>
    unfold addPlan addLoop
    simp only [check_check, bind_assoc]
    refine check_plan c (runPlan c aid v) rfl fun _ => ?_
    simp only [runPlan_eq, runEffs_cons, applyEff, hid, and_self, if_true, pure_bind]
    exact ih { v with allowed := _ } hid

/-- `Keeper.AddAllowedBidders` (keeper API). -/
theorem tie_AddAllowedBidders (c : Ctx) (aid : Nat) (abs : List AllowedArg) (v : AView) (hv : c.s.views[aid]? = some v)
    (hid : v.a.id = aid) :
    addAllowedBidders c aid abs = Go.runPlan c aid v (Gen.AddAllowedBidders (aid : Int) abs (rdAuction c.s)) := by
  unfold addAllowedBidders Gen.AddAllowedBidders
  simp only [Ctx.view, hv, rdAuction_some hv]
  cases abs with
  | nil => rfl
  | cons ab rest =>
    have hne : ¬ (((ab :: rest).length : Int) = 0) := by simp; omega
    simp only [hne, decide_false, if_false, Bool.false_eq_true, List.nil_append]
    show _ = runPlan c aid v (loopPlan _)
    rw [AddAllowedBidders_loop1_code, List.singleton_append, runPlan_cons]
    simp only [applyEff, bind_assoc, pure_bind, ← AddAllowedBidders_loop1_model aid _ _ _ v hid]
    rfl

theorem tie_AddAllowedBidders_noAuction (c : Ctx) (aid : Nat) (abs : List AllowedArg) (hv : c.s.views[aid]? = none) :
    addAllowedBidders c aid abs = c.fail ∧ Gen.AddAllowedBidders (aid : Int) abs (rdAuction c.s) = (true, []) := by
  refine ⟨?_, by simp [Gen.AddAllowedBidders, rdAuction_none hv]⟩
  simp only [addAllowedBidders, view_none hv, fail_bind, check_bind, ite_self]

/-- `Keeper.UpdateAllowedBidder` (keeper API).  `hacc`: callers pass a real account address (the Go
    parameter is an `sdk.AccAddress`, not a string to be parsed). -/
theorem tie_UpdateAllowedBidder (c : Ctx) (aid : Nat) (bidder : Acc) (cap : Int) (hacc : validAcc bidder = true)
    (v : AView) (hv : c.s.views[aid]? = some v) (hid : v.a.id = aid) :
    updateAllowedBidder c aid bidder cap =
      Go.runPlan c aid v (Gen.UpdateAllowedBidder (aid : Int) bidder cap (rdAuction c.s) (rdAllowed c.s)) := by
  subst hid
  unfold updateAllowedBidder Gen.UpdateAllowedBidder
  simp only [view_of hv, pure_bind, tie_AllowedBidder_Validate, hacc, rdAuction_some hv, rdAllowed_some hv, check_bind]
  cases lookupAllowed v.allowed bidder with
  | none => rfl
  | some x =>
    by_cases h2 : cap > 0
    · simp [runPlan_eq, applyEff, setAllowedArg, h2]
    · simp [runPlan_eq, Ctx.fail, h2]

/-- stated beside the other three; no other theorem uses it (`stepT` has no arm for `Op.kupd`) -/
theorem tie_UpdateAllowedBidder_noAuction (c : Ctx) (aid : Nat) (bidder : Acc) (cap : Int) (hv : c.s.views[aid]? = none)
    (ab : Int → Acc → Allowed × Bool) :
    updateAllowedBidder c aid bidder cap = c.fail ∧
    Gen.UpdateAllowedBidder (aid : Int) bidder cap (rdAuction c.s) ab = (true, []) := by
  refine ⟨by rw [updateAllowedBidder, view_none hv, fail_bind], ?_⟩
  simp [Gen.UpdateAllowedBidder, rdAuction_none hv]

/-- `msgServer.AddAllowedBidder`: refused unless the switch is on
    (the C10 guard), then exactly `AddAllowedBidders` with the one-element list. -/
theorem tie_MsgServer_AddAllowedBidder (c : Ctx) (aid : Nat) (ab : AllowedArg) (hacc : validAcc ab.bidder = true)
    (v : AView) (hv : c.s.views[aid]? = some v) (hid : v.a.id = aid) :
    handle c (.addAllowed aid ab) =
      Go.runPlan c aid v (Gen.MsgServer_AddAllowedBidder ⟨aid, ab⟩ (rdAuction c.s) c.s.enableAdd).2 := by
  unfold handle Gen.MsgServer_AddAllowedBidder
  simp only [hacc]
  cases he : c.s.enableAdd with
  | false => simp [runPlan_eq, check_bind]
  | true =>
    simp only [tie_AddAllowedBidders c aid [ab] v hv hid, check_bind, if_true]
    congr 1
    cases Gen.AddAllowedBidders (aid : Int) [ab] (rdAuction c.s) with
    | mk e l => cases e <;> simp

/-- the C10 guard in isolation: with the switch off, whatever the auction and the entry -/
theorem tie_MsgServer_AddAllowedBidder_off (m : AddAllowedMsg) (ag : Int → Auction × Bool) :
    (Gen.MsgServer_AddAllowedBidder m ag false).2 = (true, []) := by
  unfold Gen.MsgServer_AddAllowedBidder
  by_cases h : validAcc m.ab.bidder = true <;> simp [h]

end Fundraising
