import Fundraising.Generated.Code.Bids
import Fundraising.Proofs.Tie.Pure
/-
  Tie of the three bid validations of keeper/bid.go (`ValidateFixedPriceBid`,
  `ValidateBatchWorthBid`, `ValidateBatchManyBid`; true = an error is returned) to the checks of
  the model's `placeBid`.  Their store reads are oracle functions: `byBidder` is
  `GetBidsByBidder`, `abGet` is `AllowedBidder.Get`.
-/
namespace Fundraising
open Fundraising.Gen Fundraising.Go

theorem ValidateFixedPriceBid_loop1_sum (a : Auction) (L : List Bid) (tot : Int) :
    ValidateFixedPriceBid.loop1 a L tot =
      Loop.done ((L.filter (fun b => decide ((b.auction : Int) = (a.id : Int)))).foldl (fun s b => s + b.toSelling a.payDenom) tot) := by
  induction L generalizing tot with
  | nil => simp [ValidateFixedPriceBid.loop1]
  | cons b rest ih =>
    unfold ValidateFixedPriceBid.loop1
    simp only [ih, tie_ConvertToSellingAmount]
    by_cases h : (b.auction : Int) = (a.id : Int) <;> simp [h]

/-- ValidateBatchWorthBid = the three checks of the model's `.worth` branch -/
theorem tie_ValidateBatchWorthBid (a : Auction) (b : Bid) (abGet : Int → Acc → Allowed × Bool) :
    ValidateBatchWorthBid a b abGet =
      !(a.type == .batch && b.denom == a.payDenom && !(abGet (b.auction : Int) b.bidder).2
        && !decide (b.toSelling a.payDenom > (abGet (b.auction : Int) b.bidder).1.cap)) := by
  unfold ValidateBatchWorthBid
  cases a.type <;> simp [tie_ConvertToSellingAmount] <;> grind

theorem tie_ValidateBatchManyBid (a : Auction) (b : Bid) (abGet : Int → Acc → Allowed × Bool) :
    ValidateBatchManyBid a b abGet =
      !(a.type == .batch && b.denom == a.sellDenom && !(abGet (b.auction : Int) b.bidder).2
        && !decide (b.toSelling a.payDenom > (abGet (b.auction : Int) b.bidder).1.cap)) := by
  unfold ValidateBatchManyBid
  cases a.type <;> simp [tie_ConvertToSellingAmount] <;> grind

theorem tie_ValidateFixedPriceBid (a : Auction) (b : Bid) (byBidder : Acc → List Bid) (abGet : Int → Acc → Allowed × Bool) :
    ValidateFixedPriceBid a b byBidder abGet =
      !(a.type == .fixed && (b.denom == a.payDenom || b.denom == a.sellDenom) && b.price == a.startPrice
        && !decide (a.remaining < b.toSelling a.payDenom) && !(abGet (b.auction : Int) b.bidder).2
        && !decide (((byBidder b.bidder).filter (fun x => decide ((x.auction : Int) = (a.id : Int)))).foldl (fun s x => s + x.toSelling a.payDenom) 0
                      + b.toSelling a.payDenom > (abGet (b.auction : Int) b.bidder).1.cap)) := by
  unfold ValidateFixedPriceBid
  simp only [ValidateFixedPriceBid_loop1_sum, tie_ConvertToSellingAmount]
  cases a.type <;> grind
end Fundraising
