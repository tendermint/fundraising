import Fundraising.Proofs.Tie.Import
import Fundraising.Proofs.Tie.Export
import Fundraising.Props.C15
/-
  C15 for the translated code: from every reachable state, the translated `ExportGenesis`
  yields a genesis that the translated `GenesisState.Validate` accepts and that the translated
  `InitGenesis`, run on an empty store, turns back into exactly the store it was exported from
  (same records in every collection, same parameters, the auction sequence at the next free id).
-/
namespace Fundraising
open Fundraising.Gen Fundraising.Go

theorem code_C15_round_trip (st : State) (h : Reach st) :
    let g := (Gen.ExportGenesis (storeOf st.core)).1
    Gen.GenesisState_Validate g = false ∧ Gen.InitGenesis g {} = (false, storeOf st.core) := by
  have hwf := wf_reach st h
  simp only [tie_ExportGenesis]
  have hval := (C15_export_validates st h)
  have himp := (C15_import_export st h).1
  refine ⟨?_, ?_⟩
  · rw [tie_GenesisState_Validate]; simp [hval]
  · have hall : ∀ p ∈ (exportGenesis st.core).allowed,
        p.1 < (exportGenesis st.core).auctions.length ∧ validAcc p.2.bidder = true := by
      intro p hp
      simp only [exportGenesis, List.mem_flatMap, List.mem_map] at hp
      obtain ⟨v, hv, x, hx, rfl⟩ := hp
      obtain ⟨i, hi, hvi⟩ := List.getElem_of_mem hv
      have W := hwf.views i v (by rw [List.getElem?_eq_getElem hi, hvi])
      refine ⟨?_, (W.caps x hx).1⟩
      have hid := W.id
      simp only [exportGenesis, List.length_map]
      omega
    have t := tie_InitGenesis (exportGenesis st.core) (fun p hp => (hall p hp).1) (fun p hp => (hall p hp).2)
    rw [himp] at t
    simp only at t
    rw [t]
    simp [storeOf, exportGenesis]

end Fundraising
