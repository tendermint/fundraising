import Fundraising.Generated.Code.Auctions
import Fundraising.Tables.GoRun
import Fundraising.Proofs.Tie.Pure
import Fundraising.Proofs.OpsMsgs
/-
  Tie of the translated `Keeper.CreateFixedPriceAuction` / `Keeper.CreateBatchAuction`
  (keeper/auction.go) to `createAuction` of Model/Keeper.lean: one plan (`createPlan`) for both
  auction types.
-/
namespace Fundraising
open Fundraising.Gen Fundraising.Go

/-- `n` is the next auction id -/
def createPlan (m : CreateMsg) (now : Int) (n : Nat) : Bool × List GEff :=
  let a : Auction := (m.view n now).a
  let sell : Coin := ⟨m.sellDenom, m.sellAmt⟩
  if !decide (now > m.endTime) && (decide (m.schedules.length ≤ 100) && (m.type != .batch || decide (m.maxExt ≤ 30))) then
    (false, ⟨.payCreationFee, [.nat m.auctioneer]⟩ ::
      ⟨.reserveSellingCoin, [.int n, .nat m.auctioneer, .coin sell]⟩ ::
      (match m.type with
       | .fixed =>
         [⟨.beforeFixedCreated, [.nat m.auctioneer, .int m.startPrice, .coin sell, .nat m.payDenom, .sched m.schedules,
            .int m.startTime, .int m.endTime]⟩,
          ⟨.auctionSet, [.int n, .auction a]⟩,
          ⟨.afterFixedCreated, [.int n, .nat m.auctioneer, .int m.startPrice, .coin sell, .nat m.payDenom, .sched m.schedules,
            .int m.startTime, .int m.endTime]⟩]
       | .batch =>
         [⟨.beforeBatchCreated, [.nat m.auctioneer, .int m.startPrice, .int m.minBid, .coin sell, .nat m.payDenom,
            .sched m.schedules, .int m.maxExt, .int m.rate, .int m.startTime, .int m.endTime]⟩,
          ⟨.auctionSet, [.int n, .auction a]⟩,
          ⟨.afterBatchCreated, [.int n, .nat m.auctioneer, .int m.startPrice, .int m.minBid, .coin sell, .nat m.payDenom,
            .sched m.schedules, .int m.maxExt, .int m.rate, .int m.startTime, .int m.endTime]⟩]))
  else (true, [])

/-- the working view starts empty (`{ a := default }`: no bids, no allow-list, no queues); `runPlanNew` gives it
    the next free id, and the `Auction.Set` of the plan fills in the record -/
theorem createAuction_eq_plan (c : Ctx) (m : CreateMsg) :
    createAuction c m = runPlanNew c ({ a := default } : AView) (createPlan m c.s.now c.s.views.length) := by
  unfold createAuction createPlan CreateMsg.view
  simp only [check_check]
  refine check_plan c (runPlanNew c _) rfl fun _ => ?_
  -- the model appends the new view before it calls the `After…Created` hook, `runPlanNew` when the plan has run
  simp only [hook_append]
  cases hty : m.type <;>
    simp only [runPlanNew, runEffs_cons, runEffs_nil, applyEff, bind_assoc, pure_bind, createHookArgs, hty, reduceCtorEq,
      if_true, if_false, and_self, Int.toNat_natCast, List.nil_append, List.append_nil, List.cons_append, List.append_assoc]
  all_goals
    refine bind_congr_ok fun c1 h1 => ?_
    refine bind_congr_ok fun coins _ => ?_
    refine bind_congr_ok fun c2 h2 => ?_
    rw [bankCall_now h2, bankCall_now h1]

/-- `Keeper.CreateFixedPriceAuction`.  `hacc`: `ValidateBasic` has accepted the auctioneer address. -/
theorem tie_CreateFixedPriceAuction (c : Ctx) (m : CreateMsg) (hty : m.type = .fixed) (hacc : validAcc m.auctioneer = true) :
    createAuction c m =
      Go.runPlanNew c ({ a := default } : AView) (Gen.CreateFixedPriceAuction m c.s.now (c.s.views.length : Int)).2 := by
  rw [createAuction_eq_plan]
  congr 1
  unfold Gen.CreateFixedPriceAuction createPlan CreateMsg.view
  simp [hty, hacc, tie_ShouldAuctionStarted, newBaseAuction, newFixedPriceAuction, sellingCoin, index]
  grind

theorem tie_CreateBatchAuction (c : Ctx) (m : CreateMsg) (hty : m.type = .batch) (hacc : validAcc m.auctioneer = true) :
    createAuction c m =
      Go.runPlanNew c ({ a := default } : AView) (Gen.CreateBatchAuction m c.s.now (c.s.views.length : Int)).2 := by
  rw [createAuction_eq_plan]
  congr 1
  unfold Gen.CreateBatchAuction createPlan CreateMsg.view
  simp [hty, hacc, tie_ShouldAuctionStarted, newBaseAuction, newBatchAuction, sellingCoin, index]
  grind

end Fundraising
