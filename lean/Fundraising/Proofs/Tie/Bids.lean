import Fundraising.Generated.Code.Bids
import Fundraising.Tables.GoRun
import Fundraising.Proofs.Tie.BidsPure
import Fundraising.Proofs.Exec
import Fundraising.Proofs.AcceptProofs
/-
  Tie of the translated `Keeper.PlaceBid` / `Keeper.ModifyBid` (keeper/bid.go) to the
  hand-written handlers `placeBid` / `modifyBid` of Model/Keeper.lean: the model handler IS the
  interpretation (`Go.runPlan`, Tables/GoRun.lean) of the plan computed by the code translated
  from the Go source — same guards in the same order, same bank calls with the same amounts, the
  hook before the `Bid.Set`, the same records written.  (How the ties go through `placePlan` /
  `modifyPlan`: head of Tables/GoRun.lean.)
-/
namespace Fundraising
open Fundraising.Gen Fundraising.Go

/-- `Except.ok_bind` for `M` -/
private theorem okbind {α β : Type} (x : α) (f : α → M β) : (Except.ok x >>= f) = f x := rfl

/-- the plan of `placeBid`: the two guards before the fee, then the guard of the bid type, which refuses AFTER
    the fee and the new bid id -/
def placePlan (v : AView) (bidder : Acc) (t : BidType) (price : Dec) (denom : Denom) (amt : Int) : Bool × List GEff :=
  let pd := v.a.payDenom
  let bid : Bid := ⟨v.a.id, v.bidSeq + 1, bidder, t, price, denom, amt, false⟩
  let q := bid.toSelling pd
  let fee : List GEff := [⟨.payPlaceBidFee, [.nat bidder]⟩, ⟨.nextBidId, [.int v.a.id]⟩]
  let reserve (cn : Coin) : GEff := ⟨.reservePayingCoin, [.int v.a.id, .nat bidder, .coin cn]⟩
  let file (b : Bid) : List GEff :=
    [⟨.beforeBidPlaced, [.int v.a.id, .int (v.bidSeq + 1 : Nat), .nat bidder, .bidType t, .int price, .coin ⟨denom, amt⟩]⟩,
     ⟨.bidSet, [.int v.a.id, .int (v.bidSeq + 1 : Nat), .bid b]⟩]
  if v.a.status == .started && (v.a.type != .batch || !decide (price < v.a.minBid)) then
    match lookupAllowed v.allowed bidder with
    | none => (true, [])
    | some ab =>
      match t with
      | .fixed =>
        if v.a.type == .fixed && (denom == pd || denom == v.a.sellDenom) && price == v.a.startPrice &&
            !decide (v.a.remaining < q) && !decide (bidderTotal v bidder + q > ab.cap) then
          (false, fee ++ reserve ⟨pd, bid.toPaying pd⟩ ::
            ⟨.auctionSet, [.int v.a.id, .auction { v.a with remaining := v.a.remaining - q }]⟩ ::
            file { bid with matched := decide (q > 0) })
        else (true, fee)
      | .worth =>
        if v.a.type == .batch && denom == pd && !decide (q > ab.cap) then
          (false, fee ++ reserve ⟨denom, amt⟩ :: file bid)
        else (true, fee)
      | .many =>
        if v.a.type == .batch && denom == v.a.sellDenom && !decide (q > ab.cap) then
          (false, fee ++ reserve ⟨pd, bid.toPaying pd⟩ :: file bid)
        else (true, fee)
  else (true, [])

theorem placeBid_eq_plan (c : Ctx) (bidder : Acc) (t : BidType) (price : Dec) (denom : Denom) (amt : Int)
    (v : AView) (hv : c.s.views[v.a.id]? = some v) (hfresh : ∀ x ∈ v.bids, x.id ≠ v.bidSeq + 1) :
    placeBid c bidder v.a.id t price denom amt = runPlan c v.a.id v (placePlan v bidder t price denom amt) := by
  have hsb : ∀ b : Bid, b.id = v.bidSeq + 1 → setBid v.bids b = v.bids ++ [b] :=
    fun b hb => setBid_fresh _ _ (by rw [hb]; exact hfresh)
  unfold placeBid placePlan
  -- consecutive guards become one, on both sides the same (`check_plan`: `split` is very slow here)
  simp only [Ctx.view, hv, okbind, check_check, Bool.and_assoc]
  refine check_plan c (runPlan c v.a.id v) rfl fun _ => ?_
  cases lookupAllowed v.allowed bidder with
  | none => rfl
  | some ab =>
    -- the guard of the bid type moves in front of the fee, then the plan is run
    cases t <;>
    simp only [check_bind, apply_ite (runPlan c v.a.id v), ite_bind, fail_bind, bind_ite, runPlan_eq, List.cons_append, List.nil_append,
      runEffs_cons, runEffs_nil, applyEff, bind_assoc, pure_bind, if_true, and_self, Int.toNat_natCast, bidHookArgs, hsb] <;>
    rfl

/-- `Keeper.PlaceBid`.  `hacc`: `ValidateBasic` has accepted the bidder address; `hfresh`: the next
    bid id is unused (`ViewWF.bidIds`/`bidSeq`); `hL`: `GetBidsByBidder` returns the bidder's bids of
    ALL auctions, of which those of this auction are the ones in its view. -/
theorem tie_PlaceBid (c : Ctx) (bidder : Acc) (aid : Nat) (t : BidType) (price : Dec) (denom : Denom) (amt : Int)
    (hacc : validAcc bidder = true) (v : AView) (hv : c.s.views[aid]? = some v)
    (hfresh : ∀ x ∈ v.bids, x.id ≠ v.bidSeq + 1)
    (hL : ((rdBidsByBidder c.s bidder).filter (fun b => decide ((b.auction : Int) = (v.a.id : Int)))) = v.bids.filter (·.bidder == bidder))
    (hid : v.a.id = aid) :
    placeBid c bidder aid t price denom amt =
       Go.runPlan c aid v (Gen.PlaceBid ⟨bidder, aid, t, price, denom, amt⟩
          (rdAuction c.s) (rdNextBidId c.s) (rdBidsByBidder c.s) (rdAllowed c.s)).2 := by
  -- `msg.AuctionId` and `auction.GetId()` are the same key: eliminate `aid` in favour of `v.a.id`
  -- before anything else, so that both spellings in the translated code have one normal form
  subst hid
  rw [placeBid_eq_plan c bidder t price denom amt v hv hfresh]
  congr 1
  unfold Gen.PlaceBid placePlan
  simp only [tie_ValidateBatchWorthBid, tie_ValidateBatchManyBid, tie_ValidateFixedPriceBid,
    tie_ConvertToPayingAmount, tie_ConvertToSellingAmount, hL, rdAuction_some hv, rdNextBidId_some hv, rdAllowed_some hv,
    Int.toNat_natCast, hacc, bidderTotal, apply_ite Prod.snd]
  clear hL hv hfresh
  simp [bidCoin]
  grind

theorem tie_PlaceBid_noAuction (c : Ctx) (bidder : Acc) (aid : Nat) (t : BidType) (price : Dec) (denom : Denom) (amt : Int)
    (hv : c.s.views[aid]? = none) (n : Int → Int) (L : Acc → List Bid) (ab : Int → Acc → Allowed × Bool) :
    placeBid c bidder aid t price denom amt = c.fail ∧
    (Gen.PlaceBid ⟨bidder, aid, t, price, denom, amt⟩ (rdAuction c.s) n L ab).2 = (true, []) := by
  refine ⟨by rw [placeBid, view_none hv, fail_bind], ?_⟩
  simp [Gen.PlaceBid, rdAuction_none hv]

/-- the plan of `modifyBid`.  Its bank call is keyed by `aid` as the message gives it, its hook and `Bid.Set` by
    the bid's own `auction` field (`hbauc` below), so that nothing here needs `v.a.id = aid`: `tie_ModifyBid` has
    no such hypothesis, and `modifyBid_eq_plan` is stated at a free `aid`. -/
def modifyPlan (v : AView) (bidder : Acc) (aid bidId : Nat) (price : Dec) (denom : Denom) (amt : Int) : Bool × List GEff :=
  if v.a.status == .started && v.a.type == .batch then
    match v.bids.find? (·.id == bidId) with
    | none => (true, [])
    | some bid =>
      if bid.bidder == bidder && !decide (price < v.a.minBid) && bid.denom == denom &&
          !(decide (price < bid.price) || decide (amt < bid.amt)) && !(decide (price = bid.price) && decide (amt = bid.amt)) then
        let reserve (cn : Coin) : List GEff :=
          if cn.amt > 0 then [⟨.reservePayingCoin, [.int aid, .nat bidder, .coin cn]⟩] else []
        (false, (match bid.type with
          | .worth => reserve ⟨denom, amt - bid.amt⟩
          | .many => reserve ⟨v.a.payDenom,
              Dec.truncInt (Dec.ceil (Dec.mul (Dec.ofInt amt) price) - Dec.ceil (Dec.mul (Dec.ofInt bid.amt) bid.price))⟩
          | .fixed => []) ++
          [⟨.beforeBidModified, [.int bid.auction, .int bid.id, .nat bid.bidder, .bidType bid.type, .int price, .coin ⟨bid.denom, amt⟩]⟩,
           ⟨.bidSet, [.int bid.auction, .int bid.id, .bid { bid with price := price, amt := amt }]⟩])
      else (true, [])
  else (true, [])

/-- `hpos`: recorded bids have positive amount and price (`BidWF`), which is what makes the
    difference of the two ceilings non-negative (Go would panic in `sdk.NewCoin` otherwise; the
    model says `.panic` there, the plan has no such call).  `hbauc`: a recorded bid carries the id
    of its auction (`BidWF.auction`), the key of its `Bid.Set`. -/
theorem modifyBid_eq_plan (c : Ctx) (bidder : Acc) (aid bidId : Nat) (price : Dec) (denom : Denom) (amt : Int)
    (v : AView) (hv : c.s.views[aid]? = some v)
    (hpos : ∀ b ∈ v.bids, 0 < b.amt ∧ 0 < b.price)
    (hbauc : ∀ b ∈ v.bids, b.auction = v.a.id) :
    modifyBid c bidder aid bidId price denom amt = runPlan c aid v (modifyPlan v bidder aid bidId price denom amt) := by
  unfold modifyBid modifyPlan
  simp only [Ctx.view, hv, okbind, check_check, Bool.and_assoc]
  refine check_plan c (runPlan c aid v) rfl fun _ => ?_
  cases hf : v.bids.find? (·.id == bidId) with
  | none => rfl
  | some bid =>
    simp only [pure_bind]
    refine check_plan c (runPlan c aid v) rfl fun hg => ?_
    have hm := List.mem_of_find?_eq_some hf
    have hsb := setBid_found v.bids bid { bid with price := price, amt := amt } bidId hf rfl
    have hau := hbauc bid hm
    have hnn : ¬ Dec.truncInt (Dec.ceil (Dec.mul (Dec.ofInt amt) price) - Dec.ceil (Dec.mul (Dec.ofInt bid.amt) bid.price)) < 0 := by
      simp only [Bool.and_eq_true, Bool.not_eq_true', Bool.or_eq_false_iff, decide_eq_false_iff_not] at hg
      obtain ⟨-, -, -, ⟨hp, ha⟩, -⟩ := hg
      exact Int.not_lt.mpr (AcceptAux.diff_many_nonneg bid price amt (hpos bid hm).1 (hpos bid hm).2 (Int.not_lt.mp hp) (Int.not_lt.mp ha))
    clear hg hf hm
    obtain ⟨bauc, bidid, bbidder, bt, bprice, bdenom, bamt, bm⟩ := bid
    subst hau
    -- the hook and the `Bid.Set`, after whatever was reserved
    have tail : ∀ c1 : Ctx, runPlan c1 aid v (false,
        [⟨.beforeBidModified, [.int v.a.id, .int bidid, .nat bbidder, .bidType bt, .int price, .coin ⟨bdenom, amt⟩]⟩,
         ⟨.bidSet, [.int v.a.id, .int bidid, .bid ⟨v.a.id, bidid, bbidder, bt, price, bdenom, amt, bm⟩]⟩]) =
        (c1.hook "BeforeBidModified" (bidHookArgs ⟨v.a.id, bidid, bbidder, bt, price, bdenom, amt, bm⟩) >>= fun c2 =>
          pure (c2.setView aid { v with
            bids := v.bids.map (fun b => if b.id == bidId then ⟨v.a.id, bidid, bbidder, bt, price, bdenom, amt, bm⟩ else b) })) := by
      intro c1
      simp only [runPlan_eq, runEffs_cons, runEffs_nil, applyEff,
        bind_assoc, pure_bind, Int.toNat_natCast, if_true, and_self, hsb, bidHookArgs]
      rfl
    -- … and before them the bank call, if the reservation grows
    have reserve : ∀ (d : Denom) (a : Int) (es : List GEff),
        runPlan c aid v (false,
          (if a > 0 then [⟨.reservePayingCoin, [.int aid, .nat bidder, .coin ⟨d, a⟩]⟩] else []) ++ es) =
        ((if a > 0 then c.bankCall .send (.user bidder) (.pay aid) [⟨d, a⟩] else pure c) >>= fun c1 =>
          runPlan c1 aid v (false, es)) := by
      intro d a es
      split
      · rename_i h
        simp only [List.singleton_append, runPlan_eq, runEffs_cons, applyEff, mkCoins_pos _ _ h, okbind, bind_assoc,
          pure_bind, Int.toNat_natCast]
      · rfl
    cases bt <;> dsimp only at hnn ⊢
    · rw [List.nil_append, tail, pure_bind]
    · rw [reserve]
      simp only [tail]
    · rw [if_neg hnn, reserve]
      simp only [tail]

/-- `Keeper.ModifyBid`.  `hacc`: `ValidateBasic` has accepted the bidder address. -/
theorem tie_ModifyBid (c : Ctx) (bidder : Acc) (aid bidId : Nat) (price : Dec) (denom : Denom) (amt : Int)
    (hacc : validAcc bidder = true) (v : AView) (hv : c.s.views[aid]? = some v)
    (hpos : ∀ b ∈ v.bids, 0 < b.amt ∧ 0 < b.price)
    (hbauc : ∀ b ∈ v.bids, b.auction = v.a.id) :
    modifyBid c bidder aid bidId price denom amt =
      Go.runPlan c aid v (Gen.ModifyBid ⟨bidder, aid, bidId, price, denom, amt⟩ (rdAuction c.s) (rdBid c.s)) := by
  rw [modifyBid_eq_plan c bidder aid bidId price denom amt v hv hpos hbauc]
  congr 1
  unfold Gen.ModifyBid modifyPlan
  simp only [hacc, rdAuction_some hv, rdBid_some hv]
  clear hv hpos hbauc
  cases v.bids.find? (·.id == bidId) with
  | none => simp
  | some bid =>
    simp [bidCoin]
    grind

theorem tie_ModifyBid_noAuction (c : Ctx) (bidder : Acc) (aid bidId : Nat) (price : Dec) (denom : Denom) (amt : Int)
    (hv : c.s.views[aid]? = none) (b : Int → Int → Bid × Bool) :
    modifyBid c bidder aid bidId price denom amt = c.fail ∧
    Gen.ModifyBid ⟨bidder, aid, bidId, price, denom, amt⟩ (rdAuction c.s) b = (true, []) := by
  refine ⟨by rw [modifyBid, view_none hv, fail_bind], ?_⟩
  simp [Gen.ModifyBid, rdAuction_none hv]

end Fundraising
