import Fundraising.Proofs.Tie.Server
import Fundraising.Proofs.Tie.Settle
import Fundraising.Proofs.Tie.Vesting
import Fundraising.Proofs.WFProofs
import Fundraising.Proofs.OpsBlock
/-
  The refinement theorems: in every well-formed (hence every reachable) state, what the model
  does for a transaction and for a block IS the interpretation of the code translated from the
  Go source on this run.

  `translatedDeliver` / `translatedBlock` are written from the generated definitions only
  (`Gen.*`, Generated/Code/*.lean) plus the interpreter (`Go.runPlan`, `Go.runPlanNew`,
  `Go.runSettlePlan`) and the READS that supply the oracle parameters (which record of the
  state each store read returns).  They contain no decision logic of their own.
-/
namespace Fundraising
open Fundraising.Gen Fundraising.Go

namespace TieRefinement

theorem flat_filter_auction (views : List AView)
    (hau : ∀ (i : Nat) (w : AView), views[i]? = some w → ∀ b ∈ w.bids, b.auction = i)
    (aid : Nat) (v : AView) (hv : views[aid]? = some v) :
    (views.flatMap (·.bids)).filter (fun b => decide (b.auction = aid)) = v.bids := by
  rw [List.filter_flatMap, flatMap_eq_at _ views aid v hv]
  · exact List.filter_eq_self.mpr fun b hb => by simpa using hau aid v hv b hb
  · intro i w hi hw
    rw [List.filter_eq_nil_iff]
    intro b hb
    have := hau i w hw b hb
    simp only [decide_eq_true_eq]
    omega

/-- `hL` of `tie_deliver_place`: of what `GetBidsByBidder` returns, the bids of this auction are
    the bidder's bids in its view -/
theorem rdBidsByBidder_filter (s : Core) (hwf : WF s) (bidder : Acc) (aid : Nat) (v : AView)
    (hv : s.views[aid]? = some v) :
    ((Go.rdBidsByBidder s bidder).filter (fun b => decide ((b.auction : Int) = (v.a.id : Int)))) =
      v.bids.filter (·.bidder == bidder) := by
  have hid := (hwf.views aid v hv).id
  have hau : ∀ (i : Nat) (w : AView), s.views[i]? = some w → ∀ b ∈ w.bids, b.auction = i := by
    intro i w hw b hb
    have W := hwf.views i w hw
    rw [(W.bids b hb).auction, W.id]
  have hp : (fun b : Bid => decide ((b.auction : Int) = (v.a.id : Int))) = (fun b => decide (b.auction = aid)) := by
    funext b
    rw [hid]
    simp
    omega
  unfold Go.rdBidsByBidder
  rw [hp, filter_swap, flat_filter_auction s.views hau aid v hv]

/-- `hfresh` of `tie_deliver_place`: ids are `1 … length`, the counter is the length -/
theorem fresh_of_wf {i : Nat} {v : AView} (W : ViewWF i v) : ∀ x ∈ v.bids, x.id ≠ v.bidSeq + 1 := by
  intro x hx
  have h : x.id ∈ v.bids.map (·.id) := List.mem_map.mpr ⟨x, hx, rfl⟩
  rw [W.bidIds] at h
  obtain ⟨k, hk, e⟩ := List.mem_map.mp h
  have := List.mem_range.mp hk
  rw [W.bidSeq]
  omega

end TieRefinement
open TieRefinement

/-- a delivered message, by the translated code: `ValidateBasic`, then the message server.  A bid of an
    undefined type has no message-server arm: `ValidateBasic` refuses it (`tie_ValidateBasic_place`), its
    `else pure c` is never taken. -/
def translatedDeliver (c : Ctx) : Msg → M Ctx
  | .create m =>
    match m.type with
    | .fixed =>
      if Gen.MsgCreateFixedPriceAuction_ValidateBasic m then c.fail
      else Go.runPlanNew c ({ a := default } : AView) (Gen.MsgServer_CreateFixedPriceAuction m c.s.now (c.s.views.length : Int)).2
    | .batch =>
      if Gen.MsgCreateBatchAuction_ValidateBasic m then c.fail
      else Go.runPlanNew c ({ a := default } : AView) (Gen.MsgServer_CreateBatchAuction m c.s.now (c.s.views.length : Int)).2
  | .cancel signer aid =>
    if Gen.MsgCancelAuction_ValidateBasic ⟨signer, aid⟩ then c.fail
    else Go.runPlanAt c aid (Gen.MsgServer_CancelAuction ⟨signer, aid⟩ (Go.rdAuction c.s) c.s.bank).2
  | .place bidder aid none price denom amt =>
    if Gen.MsgPlaceBid_ValidateBasic ⟨bidder, aid, none, price, denom, amt⟩ then c.fail else pure c
  | .place bidder aid (some t) price denom amt =>
    if Gen.MsgPlaceBid_ValidateBasic ⟨bidder, aid, some t, price, denom, amt⟩ then c.fail
    else Go.runPlanAt c aid (Gen.MsgServer_PlaceBid ⟨bidder, aid, t, price, denom, amt⟩
          (Go.rdAuction c.s) (Go.rdNextBidId c.s) (Go.rdBidsByBidder c.s) (Go.rdAllowed c.s)).2
  | .modify bidder aid bidId price denom amt =>
    if Gen.MsgModifyBid_ValidateBasic ⟨bidder, aid, bidId, price, denom, amt⟩ then c.fail
    else Go.runPlanAt c aid (Gen.MsgServer_ModifyBid ⟨bidder, aid, bidId, price, denom, amt⟩ (Go.rdAuction c.s) (Go.rdBid c.s)).2
  | .addAllowed aid ab =>
    if Gen.MsgAddAllowedBidder_ValidateBasic ⟨aid, ab⟩ then c.fail
    else Go.runPlanAt c aid (Gen.MsgServer_AddAllowedBidder ⟨aid, ab⟩ (Go.rdAuction c.s) c.s.enableAdd).2
  | .updateParams signer p =>
    if (Gen.MsgServer_UpdateParams ⟨signer, p⟩).2.1 then c.fail else pure { c with s := { c.s with params := p } }

/-- no auction is filed under `aid`: both handlers refuse (`hm`, `hp`), whatever `ValidateBasic` said -/
theorem deliver_noAuction {c : Ctx} {m : Msg} {aid : Nat} {vb : Bool} {plan : Bool × List GEff}
    (hv : c.s.views[aid]? = none) (hm : handle c m = c.fail) (hp : plan = (true, [])) :
    deliver c m = if vb then c.fail else Go.runPlanAt c aid plan := by
  simp only [deliver_eq, hm, Go.runPlanAt, hv, hp, ite_self, if_true]

/-- Refinement, transactions: in every well-formed state, for every message with any field
    values, the model's `deliver` is the interpretation of the translated code. -/
theorem refinement_deliver (c : Ctx) (hwf : WF c.s) (m : Msg) : deliver c m = translatedDeliver c m := by
  cases m with
  | create m =>
    cases hty : m.type with
    | fixed =>
      rw [tie_deliver_createFixed c m hty]
      simp only [translatedDeliver, hty]
    | batch =>
      rw [tie_deliver_createBatch c m hty]
      simp only [translatedDeliver, hty]
  | cancel signer aid =>
    cases hv : c.s.views[aid]? with
    | some v =>
      rw [tie_deliver_cancel c signer aid v hv (hwf.views aid v hv).id]
      simp only [translatedDeliver, Go.runPlanAt, hv]
    | none =>
      have h1 := tie_CancelAuction_noAuction c signer aid hv c.s.bank
      exact deliver_noAuction hv h1.1 (by rw [tie_MsgServer_CancelAuction, h1.2, ite_self])
  | place bidder aid ty price denom amt =>
    cases ty with
    | none =>
      have hvb := tie_ValidateBasic_place ⟨bidder, aid, none, price, denom, amt⟩
      simp only at hvb
      simp only [translatedDeliver, hvb]
      simp [deliver_eq, validateBasic, Ctx.fail]
    | some t =>
      cases hv : c.s.views[aid]? with
      | some v =>
        have W := hwf.views aid v hv
        rw [tie_deliver_place c bidder aid t price denom amt v hv (fresh_of_wf W)
          (rdBidsByBidder_filter c.s hwf bidder aid v hv) W.id]
        simp only [translatedDeliver, Go.runPlanAt, hv]
      | none =>
        have h1 := tie_PlaceBid_noAuction c bidder aid t price denom amt hv
          (Go.rdNextBidId c.s) (Go.rdBidsByBidder c.s) (Go.rdAllowed c.s)
        exact deliver_noAuction hv h1.1 (by rw [tie_MsgServer_PlaceBid, h1.2, ite_self])
  | modify bidder aid bidId price denom amt =>
    cases hv : c.s.views[aid]? with
    | some v =>
      have W := hwf.views aid v hv
      rw [tie_deliver_modify c bidder aid bidId price denom amt v hv
        (fun b hb => ⟨(W.bids b hb).amt, (W.bids b hb).price⟩) (fun b hb => (W.bids b hb).auction)]
      simp only [translatedDeliver, Go.runPlanAt, hv]
    | none =>
      have h1 := tie_ModifyBid_noAuction c bidder aid bidId price denom amt hv (Go.rdBid c.s)
      exact deliver_noAuction hv h1.1 (by rw [tie_MsgServer_ModifyBid, h1.2, ite_self])
  | addAllowed aid ab =>
    cases hv : c.s.views[aid]? with
    | some v =>
      have hvb := tie_ValidateBasic_addAllowed ⟨aid, ab⟩
      simp only at hvb
      simp only [translatedDeliver, Go.runPlanAt, hv, hvb, deliver_eq]
      cases hb : validateBasic (.addAllowed aid ab) with
      | false => rfl
      | true =>
        exact tie_MsgServer_AddAllowedBidder c aid ab (by simpa [validateBasic] using hb) v hv (hwf.views aid v hv).id
    | none =>
      have h1 := tie_AddAllowedBidders_noAuction c aid [ab] hv
      refine deliver_noAuction hv ?_ ?_
      · simp only [handle, h1.1, check_bind, ite_self]
      · simp [Gen.MsgServer_AddAllowedBidder, h1.2]
  | updateParams signer p =>
    have h1 := (tie_MsgServer_UpdateParams c signer p).2
    simp only [translatedDeliver]
    rw [← h1]
    simp [deliver_eq, validateBasic]

/-- `refinement_deliver` in a reachable state; no other theorem uses it -/
theorem refinement_deliver_reach (st : State) (h : Reach st) (m : Msg) :
    deliver { s := st.core, ctl := st.ctl } m = translatedDeliver { s := st.core, ctl := st.ctl } m :=
  refinement_deliver _ (wf_reach st h) m

/-- one iteration of the translated `BeginBlocker` on the auction record `a` of the SNAPSHOT the
    Go code took at the start of the block: the dispatch on the status, then the executor.
    `Gen.BeginBlocker [a]` records at most one call, that of the executor for the status of `a`
    (`tie_BeginBlocker`): the arms that panic are never taken.  For `.execVesting` it is
    `ReleaseVestingPayingCoin`, all that the untranslated `ExecuteVestingStatus` calls. -/
def translatedExec (c : Ctx) (a : Auction) : M Ctx :=
  match (Gen.BeginBlocker [a]).2 with
  | [] => pure c
  | [e] =>
    match e.name with
    | .execStandBy => Go.runSettlePlan c a.id (Gen.ExecuteStandByStatus a c.s.now)
    | .execStarted => Go.runSettlePlan c a.id (Gen.ExecuteStartedStatus a c.s.now)
    | .execVesting => Go.runSettlePlan c a.id (Gen.ReleaseVestingPayingCoin a (Go.rdVqs c.s) c.s.now)
    | _ => c.fail .panic
  | _ => c.fail .panic

/-- `translatedExec` for one record of the snapshot after the other -/
def translatedLoop (c : Ctx) : List Auction → M Ctx
  | [] => pure c
  | a :: rest => do
    let c ← translatedExec c a
    translatedLoop c rest

/-- a block, by the translated code: the snapshot of all auction records, then one executor each -/
def translatedBlock (c : Ctx) (t : Int) : M Ctx :=
  let c := { c with s := { c.s with now := t } }
  translatedLoop c (c.s.views.map (·.a))

theorem translatedExec_eq_blockStep (c : Ctx) (aid : Nat) (v : AView) (hv : c.s.views[aid]? = some v)
    (W : ViewWF aid v) : translatedExec c v.a = blockStep c aid := by
  have hid := W.id
  unfold translatedExec
  rw [tie_BeginBlocker]
  cases hst : v.a.status <;> simp only [List.filterMap_cons, List.filterMap_nil, dispatchEff, hst, hid]
  · exact (tie_ExecuteStandByStatus c aid v hv hst hid).symm
  · exact (tie_ExecuteStartedStatus c aid v hv hst W.auction.endNonempty).symm
  · rw [tie_ExecuteVestingStatus c aid v hv hst]
    exact (tie_ReleaseVestingPayingCoin c aid v hv hid (fun q hq => (W.vqsWF q hq).2.2.2)).symm
  · exact (tie_blockStep_terminal c aid v hv (Or.inl hst)).1.symm
  · exact (tie_blockStep_terminal c aid v hv (Or.inr hst)).1.symm

/-- the loop, from index `k` on: the model reads each view FRESH, the translated code iterates
    over the SNAPSHOT `rest` of the records not yet processed; they agree because an iteration
    does not touch the views of the other auctions (`blockStep_foot`) -/
theorem blockLoop_eq_translatedLoop : ∀ (rest : List Auction) (k : Nat) (c : Ctx),
    (∀ j, (c.s.views[k + j]?).map (·.a) = rest[j]?) →
    (∀ j v, k ≤ j → c.s.views[j]? = some v → ViewWF j v) →
    blockLoop c (List.range' k rest.length) = translatedLoop c rest := by
  intro rest
  induction rest with
  | nil => intro k c _ _; rfl
  | cons a rest ih =>
    intro k c hsnap hW
    have h0 := hsnap 0
    simp only [Nat.add_zero, List.getElem?_cons_zero, Option.map_eq_some_iff] at h0
    obtain ⟨v, hv, hva⟩ := h0
    subst hva
    simp only [List.length_cons, List.range'_succ, blockLoop, translatedLoop]
    rw [translatedExec_eq_blockStep c k v hv (hW k v (Nat.le_refl _) hv)]
    refine bind_congr_ok fun c1 hstep => ?_
    obtain ⟨_, _, ⟨_, hoth⟩, _⟩ := blockStep_foot hstep
    apply ih (k + 1) c1
    · intro j
      rw [hoth (k + 1 + j) (by omega)]
      have := hsnap (j + 1)
      simp only [List.getElem?_cons_succ] at this
      rw [← this]
      congr 2
      omega
    · intro j w hj hw
      rw [hoth j (by omega)] at hw
      exact hW j w (by omega) hw

/-- Refinement, blocks: in every well-formed state the model's `beginBlock` is the translated
    `BeginBlocker` run over the snapshot of the auction records taken at the start of the block. -/
theorem refinement_block (c : Ctx) (hwf : WF c.s) (t : Int) : beginBlock c t = translatedBlock c t := by
  unfold beginBlock translatedBlock
  simp only
  have h := blockLoop_eq_translatedLoop (c.s.views.map (·.a)) 0
    { c with s := { c.s with now := t } }
    (by intro j; simp)
    (by intro j v _ hv; exact hwf.views j v hv)
  simp only [List.length_map] at h
  rw [← h, List.range_eq_range']

end Fundraising
