import Fundraising.Generated.Code.Getters
import Fundraising.Proofs.Tie.Store
/-
  Tie of the keeper's keyed getters (keeper/bid.go, match.go, vesting.go, allowed_bidder.go),
  translated store-threaded: on the store of a model state, each returns exactly the value of the
  read function (`Go.rd…`, Tables/GoRun.lean) with which the handler ties instantiate the oracle
  functions of the translated handlers — the records filed under THAT auction id (a prefixed
  range), the bids of THAT bidder (a filter inside the Walk), "not found" read as 0.
-/
namespace Fundraising
open Fundraising.Gen Fundraising.Go

theorem tie_GetBidsByAuctionId (s : Core) (id : Int) :
    Gen.GetBidsByAuctionId id (storeOf s) = (rdBids s id, false, storeOf s) := by
  unfold Gen.GetBidsByAuctionId
  simp only [GetBidsByAuctionId.walk1, foldl_walk_append, List.nil_append, bidsOf_storeOf]

theorem tie_GetBidsByBidder (s : Core) (u : Acc) :
    Gen.GetBidsByBidder u (storeOf s) = (rdBidsByBidder s u, false, storeOf s) := by
  unfold Gen.GetBidsByBidder
  have : (fun (s__ : List Bid) (v__ : Bid) => GetBidsByBidder.walk1 u v__ s__) =
      (fun s v => if (fun b : Bid => b.bidder == u) v then s ++ [v] else s) := by
    funext s v; simp [GetBidsByBidder.walk1]
  simp only [this, foldl_walk_filter, List.nil_append, allBids_storeOf, rdBidsByBidder]

theorem tie_GetVestingQueuesByAuctionId (s : Core) (id : Int) :
    Gen.GetVestingQueuesByAuctionId id (storeOf s) = (rdVqs s id, false, storeOf s) := by
  unfold Gen.GetVestingQueuesByAuctionId
  simp only [GetVestingQueuesByAuctionId.walk1, foldl_walk_append, List.nil_append, vqsOf_storeOf]

theorem tie_GetAllowedBiddersByAuction (s : Core) (id : Int) :
    Gen.GetAllowedBiddersByAuction id (storeOf s) = (rdAllowedList s id, false, storeOf s) := by
  unfold Gen.GetAllowedBiddersByAuction
  simp only [GetAllowedBiddersByAuction.walk1, foldl_walk_append, List.nil_append, allowedOf_storeOf]

theorem tie_GetLastMatchedBidsLen (s : Core) (id : Int) :
    Gen.GetLastMatchedBidsLen id (storeOf s) = (rdMatchedLen s id, false, storeOf s) := by
  simp only [Gen.GetLastMatchedBidsLen, matchedLenGet_storeOf]
  by_cases h : rdMatchedLen s id = 0 <;> simp [h]

/-- `GetNextBidIdWithUpdate`: the value is the read function's; the store afterwards is the one
    the store-threaded `InitGenesis` works with (`GStore.nextBidId`).  `h0`: auction ids are unsigned. -/
theorem tie_GetNextBidIdWithUpdate (s : Core) (id : Int) (h0 : 0 ≤ id) :
    Gen.GetNextBidIdWithUpdate id (storeOf s) =
      (rdNextBidId s id, false, (GStore.nextBidId (storeOf s) id).2) ∧
    (GStore.nextBidId (storeOf s) id).1 = rdNextBidId s id := by
  simp only [Gen.GetNextBidIdWithUpdate, bidSeqGet_storeOf, nextBidId_storeOf s id h0]
  by_cases h : rdNextBidId s id = 1 <;> simp [h]

/-! ### the list-all helpers (`Auctions()` is what `BeginBlocker` iterates over) -/

theorem tie_Auctions (s : Core) :
    Gen.Auctions (storeOf s) = (s.views.map (·.a), false, storeOf s) := by
  unfold Gen.Auctions
  simp only [Auctions.walk1, foldl_walk_append, List.nil_append, allAuctions_storeOf]

theorem tie_Bids (s : Core) :
    Gen.Bids (storeOf s) = (s.views.flatMap (·.bids), false, storeOf s) := by
  unfold Gen.Bids
  simp only [Bids.walk1, foldl_walk_append, List.nil_append, allBids_storeOf]

theorem tie_VestingQueues (s : Core) :
    Gen.VestingQueues (storeOf s) = (s.views.flatMap (·.vqs), false, storeOf s) := by
  unfold Gen.VestingQueues
  simp only [VestingQueues.walk1, foldl_walk_append, List.nil_append, allVqs_storeOf]

theorem tie_AllowedBidders (s : Core) :
    Gen.AllowedBidders (storeOf s) = (GStore.allAllowed (storeOf s), false, storeOf s) := by
  unfold Gen.AllowedBidders
  simp only [AllowedBidders.walk1, foldl_walk_append, List.nil_append]

end Fundraising
