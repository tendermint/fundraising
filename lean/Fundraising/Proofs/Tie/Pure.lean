import Fundraising.Generated.Code.Pure
/-
  The tie between the code TRANSLATED from /repo's Go source on this run
  (`Generated/Code/*.lean`, GoLite translator) and the hand-written model: each translated
  function equals the model definition the property theorems are about.  When the Go source
  of one of these functions changes its meaning (a comparison flipped, a rounding mode
  changed, a guard dropped or added), the translation changes and the theorem below no
  longer checks; a harmless rewrite that keeps the meaning (`a.GT(b)` → `b.LT(a)`, a guard
  moved past an independent one) keeps it provable because the proofs are by
  simplification/arithmetic, not by syntactic identity.
-/
namespace Fundraising
open Fundraising.Gen

/-! ### types/bid.go -/

theorem tie_ConvertToSellingAmount (b : Bid) (d : Denom) :
    Bid_ConvertToSellingAmount b d = b.toSelling d := by
  unfold Bid_ConvertToSellingAmount Bid.toSelling
  grind

theorem tie_ConvertToPayingAmount (b : Bid) (d : Denom) :
    Bid_ConvertToPayingAmount b d = b.toPaying d := by
  unfold Bid_ConvertToPayingAmount Bid.toPaying
  grind

/-! ### types/auction.go, types/vesting.go: the three "is it time" predicates of BeginBlocker -/

theorem tie_ShouldAuctionStarted (a : Auction) (t : Int) :
    BaseAuction_ShouldAuctionStarted a t = decide (a.startTime ≤ t) := by
  unfold BaseAuction_ShouldAuctionStarted
  grind

theorem index_last {l : List Int} (h : l ≠ []) :
    Go.index l ((l.length : Int) - 1) = l.getLast?.getD 0 := by
  have hl : 0 < l.length := List.length_pos_iff.mpr h
  have : ((l.length : Int) - 1).toNat = l.length - 1 := by omega
  unfold Go.index
  rw [this, List.getLast?_eq_getElem?]
  simp [List.getD_eq_getElem?_getD]

/-- the model's `blockStep` compares the last end time (`getLast?`; an empty list is a Go
    panic, excluded by `AuctionWF.endNonempty`) -/
theorem tie_ShouldAuctionClosed (a : Auction) (t : Int) (h : a.endTimes ≠ []) :
    BaseAuction_ShouldAuctionClosed a t = decide (a.lastEnd ≤ t) := by
  have e := index_last h
  unfold BaseAuction_ShouldAuctionClosed Auction.lastEnd
  grind

theorem tie_ShouldRelease (q : VQ) (t : Int) :
    VestingQueue_ShouldRelease q t = (decide (q.release ≤ t) && !q.released) := by
  unfold VestingQueue_ShouldRelease
  grind

/-! ### types/allowed_bidder.go -/

theorem tie_AllowedBidder_Validate (ab : AllowedArg) :
    AllowedBidder_Validate ab = !(validAcc ab.bidder && decide (ab.cap > 0)) := by
  unfold AllowedBidder_Validate
  grind

end Fundraising
