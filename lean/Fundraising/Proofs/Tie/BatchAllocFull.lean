import Fundraising.Proofs.Tie.BatchAlloc
import Fundraising.Proofs.Tie.BidsByPrice
/-
  `CalculateBatchAllocation` with the `(prices, bidsByPrice)` it really gets: the TRANSLATED
  `types.BidsByPrice` applied to whatever `types.SortBids` returned.  The four hypotheses
  `tie_CalculateBatchAllocation` makes about its price oracle (`hprices`, `hsorted`, `hlevel`,
  `hdesc`) are discharged from the code; what remains assumed about `SortBids` is that it returns
  a permutation of its input (it calls `sort.Slice` on it) — NOT that the result is sorted, which
  for books of more than 12 bids it is not (its comparator is not a strict weak order; the
  pure-function stream shows such outputs).
-/
namespace Fundraising
open Fundraising.Gen Fundraising.Go

/-- `CalculateBatchAllocation` after `BidsByPrice` = `calcBatchWith` for an `Arrangement` of the bids —
    for EVERY permutation `out` that `SortBids` may return and every iteration order of the three
    Go maps (`keysP`: the price map of `BidsByPrice`; `keysR`, `keysM`: the two maps of
    `CalculateBatchAllocation`). -/
theorem tie_CalculateBatchAllocation_BidsByPrice (a : Auction) (bids out : List Bid) (keysP : List Dec)
    (allowed : List Allowed) (keysR keysM : List Acc)
    (hperm : out.Perm bids) (hkP : KeysOf out keysP)
    (hty : ∀ b ∈ bids, b.type ≠ .fixed)
    (hal : ∀ b ∈ bids, (lookupAllowed allowed b.bidder).isSome = true)
    (hnd : (allowed.map (·.bidder)).Pairwise (· < ·))
    (hkR : ∀ u, u ∈ keysR ↔ u ∈ biddersOf bids) (hkRnd : keysR.Nodup)
    (hkM : ∀ u, u ∈ keysM ↔ ((finalMatchRes a (Gen.BidsByPrice bids out keysP).1
        (Gen.BidsByPrice bids out keysP).2 allowed).byBidder u).isSome = true) (hkMnd : keysM.Nodup)
    (bidsF : Int → List Bid) (hbF : bidsF (a.id : Int) = bids)
    (allowedF : Int → List Allowed) (haF : allowedF (a.id : Int) = allowed) :
    Arrangement bids (arrangementOf (Gen.BidsByPrice bids out keysP)) ∧
    match calcBatchWith (arrangementOf (Gen.BidsByPrice bids out keysP)) a bids allowed with
    | none => False
    | some mi =>
      let prices := (Gen.BidsByPrice bids out keysP).1
      let byPrice := (Gen.BidsByPrice bids out keysP).2
      (Gen.CalculateBatchAllocation a bidsF prices byPrice allowedF keysR keysM).2.1 = false ∧
      (Gen.CalculateBatchAllocation a bidsF prices byPrice allowedF keysR keysM).1.matchedLen = mi.matchedLen ∧
      (Gen.CalculateBatchAllocation a bidsF prices byPrice allowedF keysR keysM).1.price = mi.price ∧
      (Gen.CalculateBatchAllocation a bidsF prices byPrice allowedF keysR keysM).1.total = mi.total ∧
      mi.alloc = (biddersOf bids).map
        (fun u => (u, ((Gen.CalculateBatchAllocation a bidsF prices byPrice allowedF keysR keysM).1.alloc u).getD 0)) ∧
      mi.refund = (biddersOf bids).map
        (fun u => (u, ((Gen.CalculateBatchAllocation a bidsF prices byPrice allowedF keysR keysM).1.refund u).getD 0)) ∧
      (Gen.CalculateBatchAllocation a bidsF prices byPrice allowedF keysR keysM).2.2 = flagEffs a bids mi := by
  have harr := tie_BidsByPrice_Arrangement bids out keysP hkP hperm
  refine ⟨harr, ?_⟩
  have hmem : ∀ b ∈ arrangementOf (Gen.BidsByPrice bids out keysP), b ∈ bids :=
    fun b hb => (harr.1.mem_iff).1 hb
  exact tie_CalculateBatchAllocation a bids (arrangementOf (Gen.BidsByPrice bids out keysP))
    (Gen.BidsByPrice bids out keysP).1 (Gen.BidsByPrice bids out keysP).2 allowed keysR keysM
    (tie_BidsByPrice_distinctPrices bids out keysP hkP) rfl
    (tie_BidsByPrice_level bids out keysP) (tie_BidsByPrice_prices bids out keysP hkP).1
    (fun b hb => hty b (hmem b hb)) (fun b hb => hal b (hmem b hb)) hnd hkR hkRnd hkM hkMnd bidsF hbF allowedF haF

end Fundraising
