import Fundraising.Generated.Code.Server
import Fundraising.Proofs.Tie.Msgs
import Fundraising.Proofs.Tie.MsgsCreate
import Fundraising.Proofs.Tie.Bids
import Fundraising.Proofs.Tie.Auctions
import Fundraising.Proofs.Tie.Creates
/-
  Tie of the translated message server (keeper/msg_server.go, keeper/msg_update_params.go) and
  parameter validation (types/params.go): every `msgServer` method is the address-codec check
  followed by the keeper function; composed with the `ValidateBasic` ties this gives, for every
  message, the model's `deliver` (= what baseapp runs for a transaction) as the interpretation of
  code translated from the Go source: ValidateBasic → msgServer → Keeper.
-/
namespace Fundraising
open Fundraising.Gen Fundraising.Go

/-! ### the message server only adds the address check -/

theorem tie_MsgServer_PlaceBid (m : PlaceMsgK) (ag : Int → Auction × Bool) (n : Int → Int) (L : Acc → List Bid)
    (ab : Int → Acc → Allowed × Bool) :
    (Gen.MsgServer_PlaceBid m ag n L ab).2 =
      if validAcc m.bidder then (Gen.PlaceBid m ag n L ab).2 else (true, []) := by
  unfold Gen.MsgServer_PlaceBid
  cases validAcc m.bidder <;> simp <;> grind

theorem tie_MsgServer_ModifyBid (m : ModifyMsg) (ag : Int → Auction × Bool) (bg : Int → Int → Bid × Bool) :
    (Gen.MsgServer_ModifyBid m ag bg).2 =
      if validAcc m.bidder then Gen.ModifyBid m ag bg else (true, []) := by
  unfold Gen.MsgServer_ModifyBid
  cases validAcc m.bidder <;> simp <;> grind

theorem tie_MsgServer_CancelAuction (m : CancelMsg) (ag : Int → Auction × Bool) (bal : Addr → Denom → Int) :
    (Gen.MsgServer_CancelAuction m ag bal).2 =
      if validAcc m.signer then Gen.CancelAuction m ag bal else (true, []) := by
  unfold Gen.MsgServer_CancelAuction
  cases validAcc m.signer <;> simp <;> grind

theorem tie_MsgServer_CreateFixedPriceAuction (m : CreateMsg) (now nextId : Int) :
    (Gen.MsgServer_CreateFixedPriceAuction m now nextId).2 =
      if validAcc m.auctioneer then (Gen.CreateFixedPriceAuction m now nextId).2 else (true, []) := by
  unfold Gen.MsgServer_CreateFixedPriceAuction
  cases validAcc m.auctioneer <;> simp <;> grind

theorem tie_MsgServer_CreateBatchAuction (m : CreateMsg) (now nextId : Int) :
    (Gen.MsgServer_CreateBatchAuction m now nextId).2 =
      if validAcc m.auctioneer then (Gen.CreateBatchAuction m now nextId).2 else (true, []) := by
  unfold Gen.MsgServer_CreateBatchAuction
  cases validAcc m.auctioneer <;> simp <;> grind

/-- `MsgUpdateParams`: accepted exactly from the authority with valid fee lists, and then it
    stores exactly the given parameters (the extended period is stored as given, unbounded) -/
theorem tie_MsgServer_UpdateParams (c : Ctx) (signer : Acc) (p : Params) :
    (Gen.MsgServer_UpdateParams ⟨signer, p⟩).2 =
      (if validAcc signer && signer == AUTHORITY && (validCoins p.creationFee && validCoins p.bidFee)
        then (false, [⟨.paramsSet, [.params p]⟩]) else (true, [])) ∧
    handle c (.updateParams signer p) =
      (if (Gen.MsgServer_UpdateParams ⟨signer, p⟩).2.1 then c.fail else pure { c with s := { c.s with params := p } }) := by
  have hplan : (Gen.MsgServer_UpdateParams ⟨signer, p⟩).2 =
      (if validAcc signer && signer == AUTHORITY && (validCoins p.creationFee && validCoins p.bidFee)
        then (false, [⟨.paramsSet, [.params p]⟩]) else (true, [])) := by
    unfold Gen.MsgServer_UpdateParams
    simp [tie_Params_Validate]
    grind
  refine ⟨hplan, ?_⟩
  -- the three guards of the model's handler are the one guard of the plan
  rw [hplan, apply_ite Prod.fst]
  unfold handle
  simp only [check_check, Bool.and_assoc]
  simp only [check_bind]
  split <;> rfl

/-! ### `deliver` = ValidateBasic → msgServer → Keeper, all three translated -/

theorem deliver_eq (c : Ctx) (m : Msg) : deliver c m = if validateBasic m then handle c m else c.fail :=
  check_bind c _ _

/-- `ValidateBasic` has already checked the address that the message server parses again -/
theorem validateBasic_acc {m : Msg} (h : validateBasic m = true) :
    match m with
    | .create m => validAcc m.auctioneer = true
    | .cancel signer _ => validAcc signer = true
    | .place bidder .. => validAcc bidder = true
    | .modify bidder .. => validAcc bidder = true
    | .addAllowed _ ab => validAcc ab.bidder = true
    | .updateParams .. => True := by
  cases m <;> simp only [validateBasic, Bool.and_eq_true] at h
  · exact h.1.1.1.1.1.1.1.1.1
  · exact h
  · exact h.1.1.1.1
  · exact h.1.1.1
  · exact h
  · trivial

/-- the three ties of a message composed: `ValidateBasic` (`hvb`), the address check the message
    server adds (`acc`, which `ValidateBasic` has made already: `hacc`), the keeper function (`h`) -/
theorem deliver_tie (c : Ctx) (m : Msg) {vb acc : Bool} {run : Bool × List GEff → M Ctx} {p : Bool × List GEff}
    (hvb : vb = !validateBasic m) (hacc : validateBasic m = true → acc = true)
    (h : acc = true → handle c m = run p) :
    deliver c m = if vb then c.fail else run (if acc then p else (true, [])) := by
  rw [deliver_eq, hvb]
  cases hb : validateBasic m
  · rfl
  · rw [hacc hb]
    exact h (hacc hb)

theorem tie_deliver_place (c : Ctx) (bidder : Acc) (aid : Nat) (t : BidType) (price : Dec) (denom : Denom) (amt : Int)
    (v : AView) (hv : c.s.views[aid]? = some v)
    (hfresh : ∀ x ∈ v.bids, x.id ≠ v.bidSeq + 1)
    (hL : ((rdBidsByBidder c.s bidder).filter (fun b => decide ((b.auction : Int) = (v.a.id : Int)))) = v.bids.filter (·.bidder == bidder))
    (hid : v.a.id = aid) :
    deliver c (.place bidder aid (some t) price denom amt) =
      if Gen.MsgPlaceBid_ValidateBasic ⟨bidder, aid, some t, price, denom, amt⟩ then c.fail
      else Go.runPlan c aid v (Gen.MsgServer_PlaceBid ⟨bidder, aid, t, price, denom, amt⟩
          (rdAuction c.s) (rdNextBidId c.s) (rdBidsByBidder c.s) (rdAllowed c.s)).2 := by
  rw [tie_MsgServer_PlaceBid]
  exact deliver_tie c _ (tie_ValidateBasic_place ⟨bidder, aid, some t, price, denom, amt⟩) validateBasic_acc
    fun hacc => tie_PlaceBid c bidder aid t price denom amt hacc v hv hfresh hL hid

theorem tie_deliver_modify (c : Ctx) (bidder : Acc) (aid bidId : Nat) (price : Dec) (denom : Denom) (amt : Int)
    (v : AView) (hv : c.s.views[aid]? = some v) (hpos : ∀ b ∈ v.bids, 0 < b.amt ∧ 0 < b.price)
    (hbauc : ∀ b ∈ v.bids, b.auction = v.a.id) :
    deliver c (.modify bidder aid bidId price denom amt) =
      if Gen.MsgModifyBid_ValidateBasic ⟨bidder, aid, bidId, price, denom, amt⟩ then c.fail
      else Go.runPlan c aid v (Gen.MsgServer_ModifyBid ⟨bidder, aid, bidId, price, denom, amt⟩ (rdAuction c.s) (rdBid c.s)).2 := by
  rw [tie_MsgServer_ModifyBid]
  exact deliver_tie c _ (tie_ValidateBasic_modify ⟨bidder, aid, bidId, price, denom, amt⟩) validateBasic_acc
    fun hacc => tie_ModifyBid c bidder aid bidId price denom amt hacc v hv hpos hbauc

theorem tie_deliver_cancel (c : Ctx) (signer : Acc) (aid : Nat) (v : AView) (hv : c.s.views[aid]? = some v)
    (hid : v.a.id = aid) :
    deliver c (.cancel signer aid) =
      if Gen.MsgCancelAuction_ValidateBasic ⟨signer, aid⟩ then c.fail
      else Go.runPlan c aid v (Gen.MsgServer_CancelAuction ⟨signer, aid⟩ (rdAuction c.s) c.s.bank).2 := by
  rw [tie_MsgServer_CancelAuction]
  exact deliver_tie c _ (tie_ValidateBasic_cancel ⟨signer, aid⟩) validateBasic_acc
    fun _ => tie_CancelAuction c signer aid v hv hid

theorem tie_deliver_createFixed (c : Ctx) (m : CreateMsg) (hty : m.type = .fixed) :
    deliver c (.create m) =
      if Gen.MsgCreateFixedPriceAuction_ValidateBasic m then c.fail
      else Go.runPlanNew c ({ a := default } : AView) (Gen.MsgServer_CreateFixedPriceAuction m c.s.now (c.s.views.length : Int)).2 := by
  rw [tie_MsgServer_CreateFixedPriceAuction]
  exact deliver_tie c _ (tie_ValidateBasic_createFixed m hty) validateBasic_acc
    fun hacc => tie_CreateFixedPriceAuction c m hty hacc

theorem tie_deliver_createBatch (c : Ctx) (m : CreateMsg) (hty : m.type = .batch) :
    deliver c (.create m) =
      if Gen.MsgCreateBatchAuction_ValidateBasic m then c.fail
      else Go.runPlanNew c ({ a := default } : AView) (Gen.MsgServer_CreateBatchAuction m c.s.now (c.s.views.length : Int)).2 := by
  rw [tie_MsgServer_CreateBatchAuction]
  exact deliver_tie c _ (tie_ValidateBasic_createBatch m hty) validateBasic_acc
    fun hacc => tie_CreateBatchAuction c m hty hacc

end Fundraising
