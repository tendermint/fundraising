import Fundraising.Generated.Code.Match
import Fundraising.Proofs.Tie.Pure
import Fundraising.Proofs.MatchSweep
/-
  Tie of the translated `types.Match` (types/match.go) and
  `Keeper.CalculateFixedPriceAllocation` (keeper/match.go) to `matchAt` / `calcFixed` of
  Model/Match.lean.

  The Go code keeps per-bidder data in maps keyed by the bidder address (translated to
  functions `Acc → Option _`, see Tables/GoSemMatch.lean) and walks the order book level by
  level (`prices`, `bidsByPrice`); the model walks the price-sorted bid list.  `accOf` reads a
  Go-shaped state as the model's accumulator.
-/
namespace Fundraising
open Fundraising.Gen Fundraising.Go

def accOf (st : MState) (rem : Acc → Option Int) : MAcc :=
  { price := st.price, total := st.total, rem := rem,
    alloc := fun u => ((st.byBidder u).map (·.matched)).getD 0,
    pay := fun u => ((st.byBidder u).map (·.pay)).getD 0,
    matched := st.matched }

/-! ### one bid, one price level -/

/-- the Go-shaped state after one bid that matched `mm` -/
def stepSt (p : Dec) (st : MState) (b : Bid) (mm : Int) : MState :=
  { price := st.price,
    total := if mm > 0 then st.total + mm else st.total,
    matched := if mm > 0 then st.matched ++ [b] else st.matched,
    byBidder := Go.mapSet st.byBidder b.bidder
      { pay := ((st.byBidder b.bidder).map (·.pay)).getD 0 + Dec.truncInt (Dec.ceil (Dec.mulInt p mm)),
        matched := ((st.byBidder b.bidder).map (·.matched)).getD 0 + mm } }

-- `hq`, `hr`: the two `math.Int` the loop body dereferences are there: the bid asks for a quantity at this price
-- (it is not `fixed`), its bidder has a remaining cap (is allow-listed).
-- The proof names every spelling of a fact; which ones are used depends on the shape of the generated loop body.
set_option linter.unusedSimpArgs false in
theorem loop3_cons (p : Dec) (S : Int) (b : Bid) (bs : List Bid) (rem : Acc → Option Int) (m : Bool)
    (st : MState) (q r : Int) (hq : bidQty b p = some q) (hr : rem b.bidder = some r) :
    Match.loop3 p S (b :: bs) rem m st =
      if st.total + min q r > S then Loop.ret (none, false)
      else Match.loop3 p S bs (if min q r > 0 then Go.mapSet rem b.bidder (r - min q r) else rem)
            (m || decide (min q r > 0)) (stepSt p st b (min q r)) := by
  rw [Match.loop3]
  unfold bidQty at hq
  cases hty : b.type <;> simp only [hty] at hq
  · cases hq
  all_goals
    have hq' := Option.some.inj hq
    cases hb : st.byBidder b.bidder <;> by_cases h2 : min q r > 0 <;>
      simp [hty, hr, hb, hq', h2, stepSt, mapSet_mapSet, Go.bidCoin_amt]

/-- a per-bidder total read off the Go map, after the bidder's entry was replaced: the model's `bump` -/
theorem getD_mapSet (f : Acc → Option BRes) (k : Acc) (x : BRes) (g : BRes → Int) (d : Int)
    (hx : g x = ((f k).map g).getD 0 + d) :
    (fun u => ((Go.mapSet f k x u).map g).getD 0) = bump (fun u => ((f u).map g).getD 0) k d := by
  funext u
  simp only [bump, Go.mapSet]
  split <;> simp_all

theorem matchStep_accOf (p : Dec) (S : Int) (b : Bid) (rem : Acc → Option Int) (st : MState) (q r : Int)
    (hq : bidQty b p = some q) (hr : rem b.bidder = some r) :
    matchStep p S (accOf st rem) b =
      if st.total + min q r > S then .nofit
      else .fit (accOf (stepSt p st b (min q r)) (if min q r > 0 then Go.mapSet rem b.bidder (r - min q r) else rem)) := by
  unfold matchStep
  have hr' : (accOf st rem).rem b.bidder = some r := hr
  rw [hq, hr']
  have ha := getD_mapSet st.byBidder b.bidder
    { pay := ((st.byBidder b.bidder).map (·.pay)).getD 0 + Dec.truncInt (Dec.ceil (Dec.mulInt p (min q r))),
      matched := ((st.byBidder b.bidder).map (·.matched)).getD 0 + min q r } (·.matched) (min q r) rfl
  have hp := getD_mapSet st.byBidder b.bidder
    { pay := ((st.byBidder b.bidder).map (·.pay)).getD 0 + Dec.truncInt (Dec.ceil (Dec.mulInt p (min q r))),
      matched := ((st.byBidder b.bidder).map (·.matched)).getD 0 + min q r } (·.pay) _ rfl
  simp only [accOf]
  by_cases h1 : st.total + min q r > S
  · simp only [h1, if_true]
  · simp only [h1, if_false]
    by_cases h2 : min q r > 0 <;> simp only [stepSt, h2, if_true, if_false, ha, hp] <;> rfl

/-- a statement "fit, and then `P`; no fit, and then `N`; never a panic" about a result of the model passes to
    weaker `P` and `N` (the shape of `tie_Match_level`, `tie_Match_levels`, `tie_Match`, `closure_step`) -/
theorem MRes.sim_imp {r : MRes} {P Q : MAcc → Prop} {N N' : Prop}
    (h : match r with | .fit a => P a | .nofit => N | .panic => False)
    (hfit : ∀ a, r = .fit a → P a → Q a) (hno : N → N') :
    match (generalizing := false) r with | .fit a => Q a | .nofit => N' | .panic => False := by
  cases r with
  | panic => exact h
  | nofit => exact hno h
  | fit a => exact hfit a rfl h

/-- the `matched` flag over two stretches of the book -/
theorem or_lt_lt (m : Bool) (a b c : Nat) (h1 : a ≤ b) (h2 : b ≤ c) :
    ((m || decide (a < b)) || decide (b < c)) = (m || decide (a < c)) := by
  have h : (a < b ∨ b < c) ↔ a < c := by omega
  rw [Bool.or_assoc, ← Bool.decide_or, decide_eq_decide.mpr h]

/-- one price level (`for _, bid := range bidsByPrice[price]`) = the model's sweep over those
    bids.  `hty`: a batch book holds worth/many bids only (`BidWF.batch`); `hal`: every bidder is
    allow-listed (`BidWF.listed`) — otherwise Go reads a nil `math.Int` and panics, which the model
    reports as `.panic`.  The Boolean the loops carry is Go's second result `matched` (some bid
    got something): true once the list of matched bids has grown. -/
theorem tie_Match_level (p : Dec) (S : Int) (bids : List Bid) (rem : Acc → Option Int) (m : Bool) (st : MState)
    (hty : ∀ b ∈ bids, b.type ≠ .fixed) (hal : ∀ b ∈ bids, (rem b.bidder).isSome = true) :
    match matchLoop p S bids (accOf st rem) with
    | .fit acc' => ∃ rem' st', Match.loop3 p S bids rem m st =
          Loop.done (rem', (m || decide (st.matched.length < acc'.matched.length)), st') ∧ accOf st' rem' = acc' ∧
          (∀ u, (rem u).isSome = true → (rem' u).isSome = true)
    | .nofit => Match.loop3 p S bids rem m st = Loop.ret (none, false)
    | .panic => False := by
  induction bids generalizing rem m st with
  | nil =>
    simp only [matchLoop, Match.loop3]
    exact ⟨rem, st, by simp [accOf], rfl, fun _ h => h⟩
  | cons b bs ih =>
    have hq := bidQty_eq_some b p (by
      cases hb : b.type with
      | fixed => exact absurd hb (hty b List.mem_cons_self)
      | worth => exact .inl rfl
      | many => exact .inr rfl)
    generalize qtyAt b p = q at hq
    obtain ⟨r, hr⟩ : ∃ r, rem b.bidder = some r := Option.isSome_iff_exists.1 (hal b List.mem_cons_self)
    rw [loop3_cons p S b bs rem m st q r hq hr]
    unfold matchLoop
    rw [matchStep_accOf p S b rem st q r hq hr]
    by_cases h1 : st.total + min q r > S
    · simp [h1]
    · simp only [h1, if_false]
      have hsome : ∀ u, (rem u).isSome = true →
          ((if min q r > 0 then Go.mapSet rem b.bidder (r - min q r) else rem) u).isSome = true := by
        intro u hu
        split
        · simp only [Go.mapSet]; split <;> simp [hu]
        · exact hu
      refine MRes.sim_imp (ih _ (m || decide (min q r > 0)) (stepSt p st b (min q r))
        (fun b' hb' => hty b' (List.mem_cons_of_mem _ hb')) (fun b' hb' => hsome _ (hal b' (List.mem_cons_of_mem _ hb'))))
        (fun acc' hl ⟨rem', st', e1, e2, e3⟩ => ?_) id
      have hm := matchLoop_matched_le p S bs _ _ hl
      refine ⟨rem', st', ?_, e2, fun u hu => e3 u (hsome u hu)⟩
      rw [e1]
      simp only [accOf, stepSt] at hm
      simp only [stepSt]
      by_cases h2 : min q r > 0
      · simp only [h2, if_true] at hm ⊢
        have : st.matched.length < acc'.matched.length := by simp at hm; omega
        simp [this]
      · simp [h2]

/-! ### the cap map -/

theorem Match_loop1_eq (l : List Allowed) (f : Acc → Option Int) (hnd : (l.map (·.bidder)).Pairwise (· < ·)) :
    Match.loop1 l f = Loop.done (fun u => match lookupAllowed l u with | some x => some x.cap | none => f u) := by
  induction l generalizing f with
  | nil => simp [Match.loop1, lookupAllowed]
  | cons x rest ih =>
    simp only [List.map_cons, List.pairwise_cons] at hnd
    rw [Match.loop1, ih _ hnd.2]
    congr 1
    funext u
    simp only [lookupAllowed, List.find?_cons]
    by_cases hx : x.bidder = u
    · subst hx
      have : List.find? (fun y => y.bidder == x.bidder) rest = none := by
        rw [List.find?_eq_none]
        intro y hy hyx
        have := hnd.1 y.bidder (List.mem_map.2 ⟨y, hy, rfl⟩)
        grind
      simp [this, Go.mapSet]
    · have hx' : ¬ u = x.bidder := fun h => hx h.symm
      have hbeq : (x.bidder == u) = false := by simp [hx]
      simp [hbeq, hx', Go.mapSet]

theorem Match_loop1_caps (allowed : List Allowed) (hnd : (allowed.map (·.bidder)).Pairwise (· < ·)) :
    Match.loop1 allowed (fun _ => none) = Loop.done (capsOf allowed) := by
  rw [Match_loop1_eq allowed _ hnd]
  congr 1
  funext u
  unfold capsOf
  cases lookupAllowed allowed u <;> rfl

/-! ### the loop over price levels -/

theorem takeWhile_levels (p : Dec) (byPrice : Dec → Option (List Bid)) (q : Dec) (qs : List Dec)
    (hlevel : ∀ q' ∈ q :: qs, ∀ b ∈ (byPrice q').getD [], b.price = q')
    (hdesc : (q :: qs).Pairwise (· > ·)) :
    ((q :: qs).flatMap (fun q => (byPrice q).getD [])).takeWhile (fun b => decide (p ≤ b.price)) =
      if q < p then []
      else (byPrice q).getD [] ++ (qs.flatMap (fun q => (byPrice q).getD [])).takeWhile (fun b => decide (p ≤ b.price)) := by
  simp only [List.flatMap_cons]
  split
  · next hq =>
    apply takeWhile_none
    intro b hmem
    rw [decide_eq_false_iff_not]
    intro hb
    rw [List.mem_append] at hmem
    rcases hmem with h | h
    · have := hlevel q List.mem_cons_self b h
      grind
    · rw [List.mem_flatMap] at h
      obtain ⟨q', hq', hbq⟩ := h
      have h1 := hlevel q' (List.mem_cons_of_mem _ hq') b hbq
      have h2 := (List.pairwise_cons.1 hdesc).1 q' hq'
      grind
  · next hq =>
    rw [List.takeWhile_append_of_pos]
    intro b hb
    have := hlevel q List.mem_cons_self b hb
    grind

set_option linter.unusedSimpArgs false in
/-- one step of the loop over price levels, whatever way the price guard is spelled -/
theorem loop2_cons (byPrice : Dec → Option (List Bid)) (p : Dec) (S : Int) (q : Dec) (qs : List Dec)
    (rem : Acc → Option Int) (m : Bool) (st : MState) :
    Match.loop2 byPrice p S (q :: qs) rem m st =
      if q < p then Loop.done (rem, m, st)
      else match Match.loop3 p S ((byPrice q).getD []) rem m st with
        | Loop.ret r => Loop.ret r
        | Loop.done (rem', m', st') => Match.loop2 byPrice p S qs rem' m' st' := by
  rw [Match.loop2]
  have hge : (q ≥ p) = ¬ q < p := by simp [Int.not_lt]
  by_cases hq : q < p
  · simp [hq, hge]
  · simp [hq, hge]
    cases Match.loop3 p S ((byPrice q).getD []) rem m st <;> rfl

theorem tie_Match_levels (p : Dec) (S : Int) (byPrice : Dec → Option (List Bid)) (prices : List Dec)
    (rem : Acc → Option Int) (m : Bool) (st : MState)
    (hlevel : ∀ q ∈ prices, ∀ b ∈ (byPrice q).getD [], b.price = q)
    (hdesc : prices.Pairwise (· > ·))
    (hty : ∀ b ∈ prices.flatMap (fun q => (byPrice q).getD []), b.type ≠ .fixed)
    (hal : ∀ b ∈ prices.flatMap (fun q => (byPrice q).getD []), (rem b.bidder).isSome = true) :
    match matchLoop p S ((prices.flatMap (fun q => (byPrice q).getD [])).takeWhile (fun b => decide (p ≤ b.price)))
        (accOf st rem) with
    | .fit acc' => ∃ rem' st', Match.loop2 byPrice p S prices rem m st =
          Loop.done (rem', (m || decide (st.matched.length < acc'.matched.length)), st') ∧ accOf st' rem' = acc'
    | .nofit => Match.loop2 byPrice p S prices rem m st = Loop.ret (none, false)
    | .panic => False := by
  induction prices generalizing rem m st with
  | nil =>
    simp only [List.flatMap_nil, List.takeWhile_nil, matchLoop, Match.loop2]
    exact ⟨rem, st, by simp [accOf], rfl⟩
  | cons q qs ih =>
    rw [takeWhile_levels p byPrice q qs hlevel hdesc, loop2_cons]
    by_cases hq : q < p
    · simp only [hq, if_true, matchLoop]
      exact ⟨rem, st, by simp [accOf], rfl⟩
    · simp only [hq, if_false]
      rw [matchLoop_append]
      simp only [List.flatMap_cons, List.mem_append] at hty hal
      have hl := tie_Match_level p S ((byPrice q).getD []) rem m st (fun b hb => hty b (Or.inl hb))
        (fun b hb => hal b (Or.inl hb))
      cases h1 : matchLoop p S ((byPrice q).getD []) (accOf st rem) with
      | panic => rw [h1] at hl; exact hl
      | nofit => rw [h1] at hl; simp only [hl]
      | fit a1 =>
        rw [h1] at hl
        obtain ⟨rem1, st1, e1, e2, e3⟩ := hl
        simp only [e1]
        have hm1 := matchLoop_matched_le p S _ _ _ h1
        subst e2
        refine MRes.sim_imp (ih rem1 (m || decide (st.matched.length < (accOf st1 rem1).matched.length)) st1
          (fun q' hq' => hlevel q' (List.mem_cons_of_mem _ hq')) (List.pairwise_cons.1 hdesc).2
          (fun b hb => hty b (Or.inr hb)) (fun b hb => e3 _ (hal b (Or.inr hb))))
          (fun a2 h2 ⟨rem2, st2, f1, f2⟩ => ?_) id
        have hm2 := matchLoop_matched_le p S _ _ _ h2
        refine ⟨rem2, st2, ?_, f2⟩
        rw [f1]
        exact congrArg (fun x => Loop.done (rem2, x, st2)) (or_lt_lt m _ _ _ hm1 hm2)

/-- `types.Match` on an order book given level by level = `matchAt` on the concatenation of the
    levels.  `hnd`: allow-list entries are keyed by bidder (`ViewWF.allowedSorted`). -/
theorem tie_Match (p : Dec) (prices : List Dec) (byPrice : Dec → Option (List Bid)) (S : Int)
    (allowed : List Allowed) (sorted : List Bid)
    (hsorted : sorted = prices.flatMap (fun q => (byPrice q).getD []))
    (hlevel : ∀ q ∈ prices, ∀ b ∈ (byPrice q).getD [], b.price = q)
    (hdesc : prices.Pairwise (· > ·))
    (hty : ∀ b ∈ sorted, b.type ≠ .fixed)
    (hal : ∀ b ∈ sorted, (lookupAllowed allowed b.bidder).isSome = true)
    (hnd : (allowed.map (·.bidder)).Pairwise (· < ·)) :
    match matchAt p sorted S allowed with
    | .fit acc => ∃ st, Gen.Match p prices byPrice S allowed = (some st, decide (acc.matched ≠ [])) ∧
        st.price = acc.price ∧ st.total = acc.total ∧ st.matched = acc.matched ∧
        ∀ u, ((st.byBidder u).map (·.matched)).getD 0 = acc.alloc u ∧ ((st.byBidder u).map (·.pay)).getD 0 = acc.pay u
    | .nofit => Gen.Match p prices byPrice S allowed = (none, false)
    | .panic => False := by
  subst hsorted
  have h := tie_Match_levels p S byPrice prices (capsOf allowed) false
    ({ price := p, total := (0 : Int), byBidder := (fun _ => none) } : MState) hlevel hdesc hty
    (fun b hb => by simpa [capsOf] using hal b hb)
  have e0 : accOf ({ price := p, total := (0 : Int), byBidder := (fun _ => none) } : MState) (capsOf allowed)
      = { price := p, rem := capsOf allowed } := rfl
  rw [e0] at h
  unfold matchAt Gen.Match
  simp only [Match_loop1_caps allowed hnd]
  refine MRes.sim_imp h (fun acc _ ⟨rem', st', e1, e2⟩ => ?_) fun h => by simp only [h]
  subst e2
  simp only [e1]
  refine ⟨st', ?_, rfl, rfl, rfl, fun u => ⟨rfl, rfl⟩⟩
  simp only [accOf, Bool.false_or, Prod.mk.injEq, true_and]
  by_cases hne : st'.matched = [] <;> simp [hne, List.length_pos_iff]

/-! ### CalculateFixedPriceAllocation -/

/-- the body of its `for _, bid := range bids` -/
def fixedStep (a : Auction) (m : MInfoG) (b : Bid) : MInfoG :=
  { m with alloc := Go.mapSet m.alloc b.bidder ((m.alloc b.bidder).getD 0 + b.toSelling a.payDenom),
           total := m.total + b.toSelling a.payDenom,
           matchedLen := m.matchedLen + 1 }

/-- that loop run over `bids` from `m` -/
def fixedRes (a : Auction) : List Bid → MInfoG → MInfoG
  | [], m => m
  | b :: bs, m => fixedRes a bs (fixedStep a m b)

theorem CalculateFixedPriceAllocation_loop1_fixedRes (a : Auction) (bids : List Bid) (m : MInfoG) :
    CalculateFixedPriceAllocation.loop1 a bids m = Loop.done (fixedRes a bids m) := by
  induction bids generalizing m with
  | nil => rfl
  | cons b bs ih =>
    unfold CalculateFixedPriceAllocation.loop1 fixedRes fixedStep
    simp only [tie_ConvertToSellingAmount, ih]
    cases h : m.alloc b.bidder <;> simp

/-- a Go map that sums `f` per bidder, one more bid added: the entry-wise description of the loop
    `m[b.bidder] = m[b.bidder] + f b` (shared by the fixed-price allocation and the reservation
    loop of the batch allocation) -/
theorem sumMap_cons (f : Bid → Int) (m : Acc → Option Int) (b : Bid) (bs : List Bid) (u : Acc) :
    (if ∃ b' ∈ bs, b'.bidder = u then
        some ((Go.mapSet m b.bidder ((m b.bidder).getD 0 + f b) u).getD 0 + sumOver bs u f)
      else Go.mapSet m b.bidder ((m b.bidder).getD 0 + f b) u) =
    if ∃ b' ∈ b :: bs, b'.bidder = u then some ((m u).getD 0 + sumOver (b :: bs) u f) else m u := by
  rw [sumOver_cons]
  simp only [Go.mapSet, List.mem_cons, exists_eq_or_imp]
  by_cases hb : b.bidder = u
  · subst hb
    by_cases hex : ∃ b' ∈ bs, b'.bidder = b.bidder
    · simp [hex]; omega
    · simp [hex, sumOver_none f bs b.bidder hex]
  · have : ¬ u = b.bidder := fun h => hb h.symm
    simp [hb, this]

theorem fixedRes_spec (a : Auction) (bids : List Bid) (m : MInfoG) :
    (fixedRes a bids m).matchedLen = m.matchedLen + bids.length ∧
    (fixedRes a bids m).price = m.price ∧
    (fixedRes a bids m).total = bids.foldl (fun s b => s + b.toSelling a.payDenom) m.total ∧
    ∀ u, (fixedRes a bids m).alloc u =
      if (∃ b ∈ bids, b.bidder = u) then some ((m.alloc u).getD 0 + sumOver bids u (·.toSelling a.payDenom))
      else m.alloc u := by
  induction bids generalizing m with
  | nil => simp [fixedRes]
  | cons b bs ih =>
    unfold fixedRes
    obtain ⟨h1, h2, h3, h4⟩ := ih (fixedStep a m b)
    refine ⟨?_, h2, h3, fun u => ?_⟩
    · rw [h1]
      show m.matchedLen + 1 + _ = _
      simp only [List.length_cons]
      omega
    · rw [h4]
      exact sumMap_cons (·.toSelling a.payDenom) m.alloc b bs u

/-- `Keeper.CalculateFixedPriceAllocation`: every bid converted on its own and summed per bidder.
    `hbF`: `GetBidsByAuctionId` returns the bids of the view. -/
theorem tie_CalculateFixedPriceAllocation (a : Auction) (bids : List Bid) (bidsF : Int → List Bid) (hbF : bidsF (a.id : Int) = bids) :
    (Gen.CalculateFixedPriceAllocation a bidsF).2 = false ∧
    (Gen.CalculateFixedPriceAllocation a bidsF).1.matchedLen = (calcFixed a bids).matchedLen ∧
    (Gen.CalculateFixedPriceAllocation a bidsF).1.price = (calcFixed a bids).price ∧
    (Gen.CalculateFixedPriceAllocation a bidsF).1.total = (calcFixed a bids).total ∧
    (calcFixed a bids).alloc =
      (biddersOf bids).map (fun u => (u, ((Gen.CalculateFixedPriceAllocation a bidsF).1.alloc u).getD 0)) ∧
    ∀ u, ((Gen.CalculateFixedPriceAllocation a bidsF).1.alloc u).isSome = (biddersOf bids).contains u := by
  unfold Gen.CalculateFixedPriceAllocation
  simp only [hbF, CalculateFixedPriceAllocation_loop1_fixedRes]
  obtain ⟨h1, h2, h3, h4⟩ := fixedRes_spec a bids ({ price := a.startPrice, total := (0 : Int), alloc := (fun _ => none) } : MInfoG)
  refine ⟨trivial, ?_, ?_, ?_, ?_, ?_⟩
  · rw [h1]; simp [calcFixed]
  · rw [h2]; simp [calcFixed]
  · rw [h3]; simp [calcFixed]
  · simp only [calcFixed]
    apply List.map_congr_left
    intro u hu
    rw [h4, if_pos ((mem_biddersOf bids u).1 hu)]
    simp
  · intro u
    rw [h4]
    by_cases h : ∃ b ∈ bids, b.bidder = u
    · rw [if_pos h]; simp [(mem_biddersOf bids u).2 h]
    · rw [if_neg h]
      have : ¬ u ∈ biddersOf bids := fun hu => h ((mem_biddersOf bids u).1 hu)
      simp [this]

end Fundraising
