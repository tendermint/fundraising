import Fundraising.Model.Match
/-
  Closed forms of the `LegacyDec` computations the module performs, for the operand
  ranges in which it performs them (non-negative amounts, positive prices).
  `PREC = 10^18`.
-/
namespace Fundraising
namespace Dec

theorem PREC_pos : (0 : Int) < PREC := by decide

/-- `ofInt c` scaled by the `10^36` of `Quo`/`QuoTruncate` -/
theorem scaled_nonneg (c : Int) (hc : 0 ≤ c) : 0 ≤ c * PREC * (PREC * PREC) :=
  Int.mul_nonneg (Int.mul_nonneg hc (Int.le_of_lt PREC_pos)) (by decide)

theorem chopRoundNonneg_mul_PREC (x : Int) (hx : 0 ≤ x) : chopRoundNonneg (x * PREC) = x := by
  have h0 : (0 : Int) ≤ x * PREC := Int.mul_nonneg hx (by decide)
  unfold chopRoundNonneg
  rw [Int.tdiv_eq_ediv_of_nonneg h0, Int.tmod_eq_emod_of_nonneg h0]
  have h1 : x * PREC % PREC = 0 := Int.mul_emod_left x PREC
  have h2 : x * PREC / PREC = x := Int.mul_ediv_cancel x (by decide)
  simp [h1, h2]

theorem chopRound_mul_PREC (x : Int) (hx : 0 ≤ x) : chopRound (x * PREC) = x := by
  have h0 : (0 : Int) ≤ x * PREC := Int.mul_nonneg hx (by decide)
  unfold chopRound
  rw [if_neg (by omega)]
  exact chopRoundNonneg_mul_PREC x hx

/-- `LegacyNewDecFromInt(a).Mul(p)` is exact: `a·p` -/
theorem mul_ofInt (a : Int) (p : Dec) (ha : 0 ≤ a) (hp : 0 ≤ p) : mul (ofInt a) p = a * p := by
  unfold mul ofInt
  rw [Int.mul_right_comm a PREC p]
  exact chopRound_mul_PREC _ (Int.mul_nonneg ha hp)

/-- `Ceil().TruncateInt()` of a non-negative decimal is the integer ceiling -/
theorem truncInt_ceil (x : Int) (hx : 0 ≤ x) : truncInt (ceil x) = (x + (PREC - 1)) / PREC := by
  unfold truncInt ceil
  rw [Int.tdiv_eq_ediv_of_nonneg hx, Int.tmod_eq_emod_of_nonneg hx]
  -- whichever whole multiple of `10^18` `Ceil` returns, `TruncateInt` gives back its factor
  by_cases h : x % PREC = 0
  · simp only [h, if_true]
    rw [Int.mul_tdiv_cancel _ (by decide)]
    unfold PREC at *; omega
  · have hpos : ¬ x % PREC < 0 := Int.not_lt.2 (Int.emod_nonneg x (by decide))
    simp only [h, hpos, if_false]
    rw [Int.mul_tdiv_cancel _ (by decide)]
    unfold PREC at *; omega

/-- `MulInt(m).Ceil().TruncateInt()`, what `m` coins cost at price `p` in the sweep -/
theorem truncInt_ceil_mulInt (p : Dec) (m : Int) (h : 0 ≤ p * m) :
    truncInt (ceil (mulInt p m)) = (p * m + (PREC - 1)) / PREC :=
  truncInt_ceil (p * m) h

/-! integer ceiling `⌈x / 10^18⌉ = (x + (10^18 − 1)) / 10^18`.  The four facts hold for any positive
divisor; they are stated for `PREC` because `omega` needs the literal. -/

theorem ceilDiv_spec (x : Int) :
    x ≤ ((x + (PREC - 1)) / PREC) * PREC ∧ ((x + (PREC - 1)) / PREC) * PREC < x + PREC := by
  unfold PREC; omega

theorem ceilDiv_mono (x y : Int) (h : x ≤ y) : (x + (PREC - 1)) / PREC ≤ (y + (PREC - 1)) / PREC := by
  unfold PREC at *; omega

theorem ceilDiv_le (x c : Int) (h : x ≤ c * PREC) : (x + (PREC - 1)) / PREC ≤ c := by
  unfold PREC at *; omega

theorem ceilDiv_pos (x : Int) (h : 0 < x) : 0 < (x + (PREC - 1)) / PREC := by
  unfold PREC; omega

/-- `Ceil` values are whole numbers … -/
theorem ceil_mul (x : Dec) : ∃ k, ceil x = k * PREC := by
  unfold ceil
  simp only
  split
  · exact ⟨_, rfl⟩
  · split <;> exact ⟨_, rfl⟩

/-- … so `TruncateInt` distributes over their difference -/
theorem truncInt_ceil_sub (x y : Dec) :
    truncInt (ceil x - ceil y) = truncInt (ceil x) - truncInt (ceil y) := by
  obtain ⟨a, ha⟩ := ceil_mul x
  obtain ⟨b, hb⟩ := ceil_mul y
  rw [ha, hb]
  unfold truncInt
  rw [← Int.sub_mul, Int.mul_tdiv_cancel _ (by decide), Int.mul_tdiv_cancel _ (by decide),
    Int.mul_tdiv_cancel _ (by decide)]

/-- `LegacyNewDecFromInt(a).Mul(p).Ceil().TruncateInt()`, what `a` selling coins cost at
    price `p`: `⌈a·p / 10^18⌉` -/
theorem sellPay (a : Int) (p : Dec) (ha : 0 ≤ a) (hp : 0 ≤ p) :
    truncInt (ceil (mul (ofInt a) p)) = (a * p + (PREC - 1)) / PREC := by
  rw [mul_ofInt _ _ ha hp]
  exact truncInt_ceil _ (Int.mul_nonneg ha hp)

theorem sellPay_pos (a : Int) (p : Dec) (ha : 0 < a) (hp : 0 < p) :
    0 < truncInt (ceil (mul (ofInt a) p)) := by
  rw [sellPay a p (Int.le_of_lt ha) (Int.le_of_lt hp)]
  exact ceilDiv_pos _ (Int.mul_pos ha hp)

theorem sellPay_mono (a a' : Int) (p p' : Dec) (ha : 0 ≤ a) (hp : 0 ≤ p) (haa : a ≤ a') (hpp : p ≤ p') :
    truncInt (ceil (mul (ofInt a) p)) ≤ truncInt (ceil (mul (ofInt a') p')) := by
  have ha' : 0 ≤ a' := Int.le_trans ha haa
  rw [sellPay a p ha hp, sellPay a' p' ha' (Int.le_trans hp hpp)]
  exact ceilDiv_mono _ _ (Int.mul_le_mul haa hpp hp ha')

/-- `LegacyNewDecFromInt(c).QuoTruncate(p).TruncateInt()` is `⌊c·10^18 / p⌋` -/
theorem truncInt_quoTrunc_ofInt (c : Int) (p : Dec) (hc : 0 ≤ c) (hp : 0 < p) :
    truncInt (quoTrunc (ofInt c) p) = c * PREC / p := by
  unfold truncInt quoTrunc chopTrunc ofInt
  have h1 := scaled_nonneg c hc
  rw [Int.tdiv_eq_ediv_of_nonneg h1]
  have h2 : 0 ≤ c * PREC * (PREC * PREC) / p := Int.ediv_nonneg h1 (Int.le_of_lt hp)
  rw [Int.tdiv_eq_ediv_of_nonneg h2]
  have h3 : 0 ≤ c * PREC * (PREC * PREC) / p / PREC := Int.ediv_nonneg h2 (by decide)
  rw [Int.tdiv_eq_ediv_of_nonneg h3]
  -- (X / p) / PREC / PREC = X / (p * (PREC*PREC)) and X = (c*PREC) * (PREC*PREC)
  have dd : ∀ (x y z : Int), 0 ≤ y → x / y / z = x / (y * z) := by
    intro x y z hy
    rw [Int.ediv_ediv, if_neg (by intro h; exact absurd h.1 (by omega)), Int.sub_zero]
  have e1 : c * PREC * (PREC * PREC) / p / PREC / PREC = c * PREC * (PREC * PREC) / (p * (PREC * PREC)) := by
    rw [dd _ p PREC (Int.le_of_lt hp), dd _ (p * PREC) PREC (Int.mul_nonneg (Int.le_of_lt hp) (by decide)),
        Int.mul_assoc p PREC PREC]
  rw [e1]
  exact Int.mul_ediv_mul_of_pos_left _ _ (by decide)

/-- … and not negative, also at price 0 (where Go panics and the model's `Int.tdiv _ 0` is 0) -/
theorem truncInt_quoTrunc_ofInt_nonneg (c : Int) (p : Dec) (hc : 0 ≤ c) (hp : 0 ≤ p) :
    0 ≤ truncInt (quoTrunc (ofInt c) p) := by
  unfold truncInt quoTrunc chopTrunc ofInt
  exact Int.tdiv_nonneg (Int.tdiv_nonneg (Int.tdiv_nonneg (scaled_nonneg c hc) hp) (by decide)) (by decide)

/-- `LegacyNewDecFromInt(r).MulTruncate(w).TruncateInt()` is `⌊r·w / 10^18⌋` -/
theorem truncInt_mulTrunc_ofInt (r : Int) (w : Dec) (hr : 0 ≤ r) (hw : 0 ≤ w) :
    truncInt (mulTrunc (ofInt r) w) = r * w / PREC := by
  unfold truncInt mulTrunc chopTrunc ofInt
  have h1 : 0 ≤ r * PREC * w := Int.mul_nonneg (Int.mul_nonneg hr (by decide)) hw
  rw [Int.tdiv_eq_ediv_of_nonneg h1]
  have h2 : 0 ≤ r * PREC * w / PREC := Int.ediv_nonneg h1 (by decide)
  rw [Int.tdiv_eq_ediv_of_nonneg h2]
  rw [Int.mul_right_comm r PREC w, Int.mul_ediv_cancel _ (by decide)]

end Dec

/-! ### `Quo` of two integers (the extension rule of C13 divides matched-bid counts) -/

/-- banker's rounding to a whole number of units is within half a unit -/
theorem chopRoundNonneg_close (t : Int) (ht : 0 ≤ t) :
    Dec.chopRoundNonneg t * PREC ≤ t + HALF ∧ t ≤ Dec.chopRoundNonneg t * PREC + HALF := by
  unfold Dec.chopRoundNonneg
  rw [Int.tdiv_eq_ediv_of_nonneg ht, Int.tmod_eq_emod_of_nonneg ht]
  simp only []
  repeat' split
  all_goals (unfold PREC HALF at *; omega)

/-- `LegacyNewDec(curr).Quo(LegacyNewDec(last))`: the big-integer quotient `⌊curr·10^36 / last⌋`, then
    banker's rounding of its last 18 digits -/
theorem quo_ofInt_eq (curr last : Int) (hc : 0 ≤ curr) (hl : 0 < last) :
    Dec.quo (Dec.ofInt curr) (Dec.ofInt last) = Dec.chopRoundNonneg (curr * (PREC * PREC) / last) ∧
      0 ≤ curr * (PREC * PREC) / last := by
  unfold Dec.quo Dec.ofInt
  have hN : 0 ≤ curr * (PREC * PREC) := Int.mul_nonneg hc (by decide)
  rw [Int.tdiv_eq_ediv_of_nonneg (Dec.scaled_nonneg curr hc), Int.mul_right_comm curr PREC,
    Int.mul_ediv_mul_of_pos_left _ _ Dec.PREC_pos]
  have ht : 0 ≤ curr * (PREC * PREC) / last := Int.ediv_nonneg hN (Int.le_of_lt hl)
  refine ⟨?_, ht⟩
  unfold Dec.chopRound; rw [if_neg (by omega)]

/-- … and exact when the ratio has at most 18 decimals -/
theorem quo_ofInt_exact (curr last k : Int) (hc : 0 ≤ curr) (hl : 0 < last)
    (hk : curr * PREC = last * k) : Dec.quo (Dec.ofInt curr) (Dec.ofInt last) = k := by
  have hk0 : 0 ≤ k := by
    have h0 : 0 ≤ last * k := by rw [← hk]; exact Int.mul_nonneg hc (by decide)
    by_cases hneg : k < 0
    · have := Int.mul_neg_of_pos_of_neg hl hneg; omega
    · omega
  rw [(quo_ofInt_eq curr last hc hl).1,
    show curr * (PREC * PREC) = last * (k * PREC) by rw [← Int.mul_assoc, hk, Int.mul_assoc],
    Int.mul_ediv_cancel_left _ (Int.ne_of_gt hl)]
  exact Dec.chopRoundNonneg_mul_PREC k hk0


/-! ### the two conversions of `types/bid.go` -/

/-- paying-denominated bid: quantity `⌊amt·10^18 / price⌋` -/
theorem Bid.toSelling_pay (b : Bid) (pd : Denom) (h : b.denom = pd) (ha : 0 ≤ b.amt) (hp : 0 < b.price) :
    b.toSelling pd = b.amt * PREC / b.price := by
  unfold Bid.toSelling; rw [if_pos h]; exact Dec.truncInt_quoTrunc_ofInt _ _ ha hp

theorem Bid.toSelling_sell (b : Bid) (pd : Denom) (h : b.denom ≠ pd) : b.toSelling pd = b.amt := by
  unfold Bid.toSelling; rw [if_neg h]

theorem Bid.toPaying_pay (b : Bid) (pd : Denom) (h : b.denom = pd) : b.toPaying pd = b.amt := by
  unfold Bid.toPaying; rw [if_pos h]

/-- selling-denominated bid: reservation `⌈amt·price / 10^18⌉` -/
theorem Bid.toPaying_sell (b : Bid) (pd : Denom) (h : b.denom ≠ pd) (ha : 0 ≤ b.amt) (hp : 0 ≤ b.price) :
    b.toPaying pd = (b.amt * b.price + (PREC - 1)) / PREC := by
  unfold Bid.toPaying; rw [if_neg h]; exact Dec.sellPay _ _ ha hp

theorem Bid.toPaying_pos (b : Bid) (pd : Denom) (ha : 0 < b.amt) (hp : 0 < b.price) :
    0 < b.toPaying pd := by
  unfold Bid.toPaying
  split
  · exact ha
  · exact Dec.sellPay_pos _ _ ha hp

theorem Bid.toSelling_nonneg (b : Bid) (pd : Denom) (ha : 0 < b.amt) (hp : 0 < b.price) :
    0 ≤ b.toSelling pd := by
  by_cases h : b.denom = pd
  · rw [Bid.toSelling_pay b pd h (Int.le_of_lt ha) hp]
    exact Int.ediv_nonneg (Int.mul_nonneg (Int.le_of_lt ha) (by decide)) (Int.le_of_lt hp)
  · rw [Bid.toSelling_sell b pd h]
    exact Int.le_of_lt ha

end Fundraising
