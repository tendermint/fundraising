import Fundraising.Spec.Frame
import Fundraising.Proofs.WFViews
/-
  The relations of the frame properties (C08, C10–C13, C19) and the pure facts about them:
  the footprint `FP` of an operation on one auction; what a settlement and a release pass may
  do to a record (`SRel`, `RRel`/`VQRel`), both within what a block may do (`BRel`), which is a
  `ViewStep`; the `ViewStep`s of the four message rewrites; `BidsClaim`.  No handler is opened
  here.
-/
namespace Fundraising.Frame

theorem OtherEsc.same {aid j : Nat} {s s' : Core} (h : OtherEsc aid s.bank s'.bank) (hj : j ≠ aid) :
    SameEscrows s s' j :=
  fun d => ⟨h (.sell j) j rfl hj d, h (.pay j) j rfl hj d, h (.vest j) j rfl hj d⟩

theorem sameEscrows_of_bank {s s' : Core} (h : s'.bank = s.bank) (j : Nat) : SameEscrows s s' j := by
  intro d; rw [h]; exact ⟨rfl, rfl, rfl⟩

/-- only the bank differs, and in it no escrow of another auction; with its two projections stated
    for its own sake: no other theorem uses them -/
def BankOnly (aid : Nat) (s s' : Core) : Prop :=
  ∃ b', s' = { s with bank := b' } ∧ OtherEsc aid s.bank b'

theorem BankOnly.params {aid : Nat} {s s' : Core} (h : BankOnly aid s s') : s'.params = s.params := by
  obtain ⟨b1, rfl, _⟩ := h; rfl
theorem BankOnly.enableAdd {aid : Nat} {s s' : Core} (h : BankOnly aid s s') : s'.enableAdd = s.enableAdd := by
  obtain ⟨b1, rfl, _⟩ := h; rfl

/-- the footprint of a successful operation on auction `aid` -/
structure FP (aid : Nat) (s s' : Core) : Prop where
  len : s'.views.length = s.views.length
  others : ∀ j, j ≠ aid → s'.views[j]? = s.views[j]?
  bank : OtherEsc aid s.bank s'.bank
  params : s'.params = s.params
  now : s'.now = s.now
  enableAdd : s'.enableAdd = s.enableAdd

theorem FP.refl (aid : Nat) (s : Core) : FP aid s s :=
  ⟨rfl, fun _ _ => rfl, OtherEsc.refl _ _, rfl, rfl, rfl⟩

theorem statusEdge_refl (a : Status) : statusEdge a a = true := by cases a <;> rfl

/-- settlement of a started auction: the status becomes `finished` or `vesting`, the matched
    price may be published, instalments are created; nothing else -/
structure SRel (v v' : AView) : Prop where
  a : ∃ st' mp, (st' = Status.finished ∨ st' = Status.vesting) ∧
        v'.a = { v.a with status := st', matchedPrice := mp }
  allowed : v'.allowed = v.allowed
  bids : v'.bids = v.bids
  seq : v'.bidSeq = v.bidSeq

theorem srel_of_settled {aid : Nat} {v w : AView} {mp : Dec} {R : Int}
    (h : ProgressInv.Settled aid (v.priced mp) R w) : SRel v w :=
  ⟨⟨w.a.status, mp, h.status_or.symm, h.status_only⟩, h.keeps.2.1, h.keeps.1, h.keeps.2.2.2⟩

inductive VQRel : List VQ → List VQ → Prop
  | nil : VQRel [] []
  | cons {q q' : VQ} {l l' : List VQ} :
      (q'.release = q.release ∧ q'.amt = q.amt ∧ (q.released = true → q'.released = true)) →
      VQRel l l' → VQRel (q :: l) (q' :: l')

theorem VQRel.mem : ∀ {l l' : List VQ}, VQRel l l' → ∀ q ∈ l, ∃ q' ∈ l',
    q'.release = q.release ∧ q'.amt = q.amt ∧ (q.released = true → q'.released = true)
  | _, _, .nil, q, hq => by cases hq
  | _, _, .cons (q' := b) h t, q, hq => by
    rcases List.mem_cons.mp hq with rfl | hq
    · exact ⟨b, List.mem_cons_self .., h⟩
    · obtain ⟨q', hq', r⟩ := VQRel.mem t q hq
      exact ⟨q', List.mem_cons_of_mem _ hq', r⟩

/-- release of instalments: the status stays or becomes `finished`, instalments are only
    marked released -/
structure RRel (v v' : AView) : Prop where
  a : v'.a = { v.a with status := v'.a.status }
  status : v'.a.status = v.a.status ∨ v'.a.status = .finished
  allowed : v'.allowed = v.allowed
  bids : v'.bids = v.bids
  seq : v'.bidSeq = v.bidSeq
  vqs : VQRel v.vqs v'.vqs

open EscrowInv (due rel) in
theorem vqRel_map_rel (t : Int) : ∀ l : List VQ, VQRel l (l.map (rel t))
  | [] => VQRel.nil
  | q :: l => by
    refine VQRel.cons ?_ (vqRel_map_rel t l)
    by_cases hd : due t q = true
    · rw [EscrowInv.rel_due hd]; exact ⟨rfl, rfl, fun _ => rfl⟩
    · rw [EscrowInv.rel_not_due hd]; exact ⟨rfl, rfl, id⟩

theorem rrel_released (v : AView) (t : Int) : RRel v (v.released t) :=
  ⟨rfl, by
    show (if _ then Status.finished else v.a.status) = v.a.status ∨
      (if _ then Status.finished else v.a.status) = .finished
    split
    · exact Or.inr rfl
    · exact Or.inl rfl, rfl, rfl, rfl, vqRel_map_rel t v.vqs⟩

/-- what one block may do to an auction's record (block time `t`, extended period `period`) -/
structure BRel (t : Int) (period : Nat) (v v' : AView) : Prop where
  terms : v'.a.terms = v.a.terms
  status : statusEdge v.a.status v'.a.status = true
  notCancel : v'.a.status = .cancelled → v.a.status = .cancelled
  ends : v'.a.endTimes = v.a.endTimes ∨
    (v.a.status = .started ∧ v.a.type = .batch ∧ v.a.lastEnd ≤ t ∧
     v.a.maxExt + 1 ≠ v.a.endTimes.length ∧
     v'.a.endTimes = v.a.endTimes ++ [v.a.lastEnd + 86400 * (period : Int)] ∧ v'.a.status = .started)
  bids : ∃ f : Bid → Bool, v'.bids = v.bids.map (fun b => { b with matched := f b })
  allowed : v'.allowed = v.allowed
  seq : v'.bidSeq = v.bidSeq
  vqs : ∀ q ∈ v.vqs, ∃ q' ∈ v'.vqs,
    q'.release = q.release ∧ q'.amt = q.amt ∧ (q.released = true → q'.released = true)

theorem map_matched_self (l : List Bid) : l = l.map (fun b => { b with matched := b.matched }) :=
  (List.map_id' l).symm

theorem BRel.refl (t : Int) (period : Nat) (v : AView) : BRel t period v v where
  terms := rfl
  status := statusEdge_refl _
  notCancel := id
  ends := Or.inl rfl
  bids := ⟨(·.matched), map_matched_self _⟩
  allowed := rfl
  seq := rfl
  vqs := fun q hq => ⟨q, hq, rfl, rfl, id⟩

theorem BRel.viewStep {t : Int} {period : Nat} {v v' : AView} (r : BRel t period v v') : ViewStep v v' where
  status := r.status
  terms := r.terms
  ends := by
    rcases r.ends with e | ⟨_, _, _, _, e, _⟩
    · exact ⟨[], by rw [e]; simp⟩
    · exact ⟨_, e⟩
  bidsKept := by
    obtain ⟨f, hf⟩ := r.bids
    refine ⟨[], ?_⟩
    rw [hf, List.map_map, List.append_nil]
    rfl
  bidsGrow := by
    obtain ⟨f, hf⟩ := r.bids
    intro b hb
    refine ⟨{ b with matched := f b }, ?_, rfl, Int.le_refl _, Int.le_refl _⟩
    rw [hf]
    exact List.mem_map.mpr ⟨b, hb, rfl⟩
  allowedKept := by
    intro x hx
    rw [r.allowed]
    exact ⟨x, hx, rfl⟩
  seq := Nat.le_of_eq r.seq.symm
  vqsKept := r.vqs

/-- settlement of a started auction without instalments on record, after `CalculateBatchAllocation`
    has rewritten the matched flags (or nothing) -/
theorem brel_of_srel {t : Int} {period : Nat} {v v' : AView} (hst : v.a.status = .started)
    (hq : v.vqs = []) {bs : List Bid}
    (hb : ∃ f : Bid → Bool, bs = v.bids.map (fun b => { b with matched := f b })) (ml : Int)
    (r : SRel { v with bids := bs, matchedLen := ml } v') : BRel t period v v' := by
  obtain ⟨st', mp, hst', ha⟩ := r.a
  simp only at ha
  refine ⟨by rw [ha]; rfl, ?_, ?_, Or.inl (by rw [ha]), hb.imp fun _ e => r.bids.trans e, r.allowed, r.seq, ?_⟩
  · rw [ha, hst]
    rcases hst' with e | e <;> rw [e] <;> rfl
  · rw [ha]
    intro h
    rcases hst' with e | e <;> rw [e] at h <;> cases h
  · intro q hq'
    rw [hq] at hq'
    cases hq'

theorem head?_append_ne {α : Type} {l : List α} (h : l ≠ []) (m : List α) : (l ++ m).head? = l.head? := by
  cases l with
  | nil => exact absurd rfl h
  | cons x xs => rfl

theorem brel_of_rrel {t : Int} {period : Nat} {v v' : AView} (hst : v.a.status = .vesting)
    (r : RRel v v') : BRel t period v v' := by
  have ha := r.a
  refine ⟨by rw [ha]; rfl, ?_, ?_, Or.inl (by rw [ha]), ⟨(·.matched), ?_⟩, r.allowed, r.seq, r.vqs.mem⟩
  · rw [hst]
    rcases r.status with e | e
    · rw [e, hst]; rfl
    · rw [e]; rfl
  · intro h
    rcases r.status with e | e
    · rw [← e]; exact h
    · rw [e] at h; cases h
  · rw [r.bids]
    exact map_matched_self _

/-- the bid `find?` returns is the only one with that id: replacing "the bid with that id" by
    `nb` replaces it and nothing else -/
theorem find_unique {i : Nat} {v : AView} (w : ViewWF i v) {bidId : Nat} {bid : Bid}
    (hfind : v.bids.find? (·.id == bidId) = some bid) :
    bid ∈ v.bids ∧ bid.id = bidId ∧ ∀ (nb : Bid), ∀ x ∈ v.bids,
      (x = bid ∧ (if x.id == bidId then nb else x) = nb) ∨
        (x.id ≠ bidId ∧ (if x.id == bidId then nb else x) = x) := by
  have hmem := List.mem_of_find?_eq_some hfind
  have hid : bid.id = bidId := by simpa using List.find?_some hfind
  exact ⟨hmem, hid, fun nb _ hx => WFInv.modified_at w.bidIds hmem hid nb hx⟩

/-! ### the four rewrites of the message handlers are `ViewStep`s -/

theorem viewStep_cancel {v : AView} (hst : v.a.status = .standby) : ViewStep v v.cancelled where
  status := by rw [hst]; rfl
  terms := rfl
  ends := ⟨[], (List.append_nil _).symm⟩
  bidsKept := ⟨[], (List.append_nil _).symm⟩
  bidsGrow := fun b hb => ⟨b, hb, rfl, Int.le_refl _, Int.le_refl _⟩
  allowedKept := fun x hx => ⟨x, hx, rfl⟩
  seq := Nat.le_refl _
  vqsKept := fun q hq => ⟨q, hq, rfl, rfl, id⟩

theorem viewStep_place (v : AView) (r : Int) (nb : Bid) :
    ViewStep v { v with a := { v.a with remaining := r }, bids := v.bids ++ [nb],
                        bidSeq := v.bidSeq + 1 } where
  status := statusEdge_refl _
  terms := rfl
  ends := ⟨[], by simp⟩
  bidsKept := ⟨[nb.ident], by simp⟩
  bidsGrow := fun b hb => ⟨b, List.mem_append_left _ hb, rfl, Int.le_refl _, Int.le_refl _⟩
  allowedKept := fun x hx => ⟨x, hx, rfl⟩
  seq := Nat.le_succ _
  vqsKept := fun q hq => ⟨q, hq, rfl, rfl, id⟩

theorem viewStep_modify {i : Nat} {v : AView} (w : ViewWF i v) {bidId : Nat} {bid : Bid}
    (hfind : v.bids.find? (·.id == bidId) = some bid) {price : Dec} {amt : Int}
    (hprice : bid.price ≤ price) (hamt : bid.amt ≤ amt) :
    ViewStep v (v.modified bidId { bid with price := price, amt := amt }) where
  status := statusEdge_refl _
  terms := rfl
  ends := ⟨[], (List.append_nil _).symm⟩
  bidsKept := by
    obtain ⟨_, _, hat⟩ := find_unique w hfind
    refine ⟨[], ?_⟩
    show (v.bids.map _).map Bid.ident = _
    rw [List.map_map, List.append_nil]
    refine List.map_congr_left fun b hb => ?_
    show (if b.id == bidId then { bid with price := price, amt := amt } else b).ident = b.ident
    rcases hat { bid with price := price, amt := amt } b hb with ⟨rfl, e⟩ | ⟨-, e⟩ <;> rw [e] <;> rfl
  bidsGrow := by
    obtain ⟨_, _, hat⟩ := find_unique w hfind
    intro b hb
    refine ⟨_, List.mem_map.mpr ⟨b, hb, rfl⟩, ?_⟩
    rcases hat { bid with price := price, amt := amt } b hb with ⟨rfl, e⟩ | ⟨-, e⟩ <;> rw [e]
    · exact ⟨rfl, hprice, hamt⟩
    · exact ⟨rfl, Int.le_refl _, Int.le_refl _⟩
  allowedKept := fun x hx => ⟨x, hx, rfl⟩
  seq := Nat.le_refl _
  vqsKept := fun q hq => ⟨q, hq, rfl, rfl, id⟩

theorem viewStep_allowed (v : AView) {l : List Allowed}
    (kept : ∀ y ∈ v.allowed, ∃ y' ∈ l, y'.bidder = y.bidder) :
    ViewStep v { v with allowed := l } where
  status := statusEdge_refl _
  terms := rfl
  ends := ⟨[], by simp⟩
  bidsKept := ⟨[], by simp⟩
  bidsGrow := fun b hb => ⟨b, hb, rfl, Int.le_refl _, Int.le_refl _⟩
  allowedKept := kept
  seq := Nat.le_refl _
  vqsKept := fun q hq => ⟨q, hq, rfl, rfl, id⟩

theorem viewStep_refl (v : AView) : ViewStep v v :=
  viewStep_allowed v fun x hx => ⟨x, hx, rfl⟩

/-- the conclusion of `bids_change_only_by_owner` -/
def BidsClaim (op : Op) (i : Nat) (v v' : AView) : Prop :=
  (∀ b ∈ v.bids, ∀ b' ∈ v'.bids, b'.id = b.id → (b'.price ≠ b.price ∨ b'.amt ≠ b.amt) →
      v.a.status = .started ∧ v.a.type = .batch ∧
      op = .msg (.modify b.bidder i b.id b'.price b.denom b'.amt)) ∧
  (v.bids.length < v'.bids.length →
      v.a.status = .started ∧ v'.bids.length = v.bids.length + 1 ∧
      ∃ b, v'.bids.getLast? = some b ∧ b.id = v.bids.length + 1 ∧
        (lookupAllowed v.allowed b.bidder).isSome = true ∧
        op = .msg (.place b.bidder i (some b.type) b.price b.denom b.amt))

theorem bidsClaim_flags {op : Op} {i : Nat} {v v' : AView} (w : ViewWF i v) (f : Bid → Bool)
    (hb : v'.bids = v.bids.map (fun b => { b with matched := f b })) : BidsClaim op i v v' := by
  constructor
  · intro b hb0 b' hb' hid hne
    rw [hb] at hb'
    obtain ⟨x, hx, rfl⟩ := List.mem_map.mp hb'
    obtain rfl := WFInv.bidIds_inj w.bidIds hx hb0 hid
    simp at hne
  · intro hlt
    rw [hb, List.length_map] at hlt
    omega

end Fundraising.Frame
