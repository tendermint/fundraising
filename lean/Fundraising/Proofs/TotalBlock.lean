import Fundraising.Proofs.EscrowProofs
/-
  C07: `BeginBlocker` never fails on a well-formed state whose escrows cover what is owed.
  Each handler goes through when its transfers are covered, by the `←` of its equivalence in
  Proofs/OpsBlock.lean; what it leaves behind is read off its `_ok`, and the loop carries `WF`,
  `BankNonneg` and the coverage from one iteration to the next by the theorems that preserve
  them.
-/
namespace Fundraising

/-- `src` is one of the three escrows of `aid`, and (`escrowOf_not_user`) no user account; no other
    theorem uses either -/
def escrowOf (aid : Nat) (src : Addr) : Prop := src = .sell aid ∨ src = .pay aid ∨ src = .vest aid

theorem escrowOf_not_user {aid : Nat} {src : Addr} (h : escrowOf aid src) : ∀ u, src ≠ .user u := by
  intro u e
  rcases h with h | h | h <;> rw [h] at e <;> cases e

theorem pays_one {c : Ctx} (hf : c.ctl.fault = none) (k : XKind) (src dst : Addr) (d : Denom) {amt : Int}
    (hle : amt ≤ c.s.bank src d) : ∃ b, Pays c [⟨k, src, dst, coinsOf d amt⟩] b :=
  ⟨_, .of_no_fault hf (sendAll_one.mpr (sendCoins_coinsOf.mpr ⟨Or.inr hle, rfl⟩))⟩

theorem sendAll_out {α : Type} {k : XKind} {src : Addr} (hsrc : ∀ u, src ≠ .user u) (d : Denom)
    (dst : α → Acc) (amt : α → Int) : ∀ (l : List α) (b : Bank), (∀ x ∈ l, 0 ≤ amt x) →
    (l.map amt).sum ≤ b src d →
    ∃ b', b.sendAll (l.map fun x => ⟨k, src, .user (dst x), coinsOf d (amt x)⟩) = some b'
  | [], b, _, _ => ⟨b, rfl⟩
  | x :: l, b, h0, hsum => by
    have ha := h0 x List.mem_cons_self
    have h0' : ∀ y ∈ l, 0 ≤ amt y := fun y hy => h0 y (List.mem_cons_of_mem _ hy)
    have hr := isum_map_nonneg h0'
    rw [List.map_cons, List.sum_cons] at hsum
    obtain ⟨b', hb'⟩ := sendAll_out hsrc d dst amt l (b.move src (.user (dst x)) d (amt x)) h0' (by
      rw [move_apply, if_pos ⟨rfl, rfl⟩, if_neg (fun e => hsrc _ e.1)]; omega)
    exact ⟨b', sendAll_cons.mpr ⟨_, sendCoins_coinsOf.mpr ⟨Or.inr (show amt x ≤ b src d by omega), rfl⟩, hb'⟩⟩

theorem sendAll_payXfers {src : Addr} (hsrc : ∀ u, src ≠ .user u) (d : Denom) (l : List (Acc × Int))
    (b : Bank) (h0 : ∀ p ∈ l, 0 ≤ p.2) (hsum : (l.map (·.2)).sum ≤ b src d) :
    ∃ b', b.sendAll (payXfers src d l) = some b' := by
  have e : payXfers src d l =
      (l.filter (fun p => p.2 ≠ 0)).map fun p => ⟨.io, src, .user p.1, coinsOf d p.2⟩ :=
    List.map_congr_left fun p hp => by rw [coinsOf, if_neg (by simpa using (List.mem_filter.mp hp).2)]
  rw [e]
  refine sendAll_out hsrc d _ _ _ b (fun p hp => h0 p (List.mem_filter.mp hp).1) (Int.le_trans ?_ hsum)
  have := isum_filter_mono (fun p => decide (p.2 ≠ 0)) (fun _ => true) (·.2) (·.2) l (fun _ _ _ => rfl)
    (fun _ _ _ => Int.le_refl _) h0
  rwa [List.filter_eq_self.mpr fun _ _ => rfl] at this

theorem payOut_total (src : Addr) (hsrc : ∀ u, src ≠ .user u) (d : Denom) (l : List (Acc × Int))
    (c : Ctx) (hf : c.ctl.fault = none) (h0 : ∀ p ∈ l, 0 ≤ p.2)
    (hsum : (l.map (·.2)).sum ≤ c.s.bank src d) : ∃ c', payOut c src d l = .ok c' :=
  let ⟨b, hb⟩ := sendAll_payXfers hsrc d l c.s.bank h0 hsum
  ⟨_, payOut_iff.mpr ⟨h0, b, .of_no_fault hf hb, rfl⟩⟩

theorem applyVestingSchedules_total (c : Ctx) (hf : c.ctl.fault = none) (aid : Nat) (v : AView)
    (hv : c.s.views[aid]? = some v) (h0 : 0 ≤ c.s.bank (.pay aid) v.a.payDenom) (e : Int)
    (hs : validSchedules v.a.schedules e = true) : ∃ c', applyVestingSchedules c aid = .ok c' := by
  obtain ⟨b, hb⟩ := pays_one hf .send (.pay aid)
    (if v.a.schedules.isEmpty then .user v.a.auctioneer else .vest aid) v.a.payDenom (Int.le_refl _)
  have hw : ∃ w, ProgressInv.Settled aid v (c.s.bank (.pay aid) v.a.payDenom) w := by
    by_cases hne : v.a.schedules = []
    · exact ⟨_, fun _ => rfl, fun h => absurd hne h⟩
    · obtain ⟨hvw, _, _⟩ := validSchedules_spec v.a.schedules e hne hs
      obtain ⟨parts, hp, _⟩ := splitLoop_spec _ v.a.schedules h0 hvw
      exact ⟨_, fun h => absurd h hne, fun _ => ⟨parts, hp, rfl⟩⟩
  obtain ⟨w, hw⟩ := hw
  exact ⟨_, (applyVestingSchedules_iff hv).mpr ⟨h0, b, hb, w, hw, rfl⟩⟩

/-- the four steps of a settlement go through when the allocations and refunds are covered -/
theorem settle_total {c : Ctx} (hf : c.ctl.fault = none) (hh : c.ctl.failhook = none) {aid : Nat}
    {v : AView} (hv : c.s.views[aid]? = some v) (hid : v.a.id = aid) (hnn : BankNonneg c.s) {e : Int}
    (hs : validSchedules v.a.schedules e = true) (mi : MInfo) (mp : Dec)
    (h0 : ∀ p ∈ mi.alloc, 0 ≤ p.2)
    (hsum : (mi.alloc.map (·.2)).sum ≤ c.s.bank (.sell aid) v.a.sellDenom)
    (r0 : ∀ p ∈ mi.refund, 0 ≤ p.2)
    (rsum : (mi.refund.map (·.2)).sum ≤ c.s.bank (.pay aid) v.a.payDenom) :
    ∃ c', SettleSteps c c' aid v mp mi := by
  obtain ⟨c₁, h₁⟩ := payOut_total (.sell v.a.id) nofun v.a.sellDenom mi.alloc
    (c.heard "BeforeSellingCoinsAllocated" ([rNat v.a.id] ++ rAmtMap mi.alloc ++ rAmtMap mi.refund))
    hf h0 (by rw [hid]; exact hsum)
  have h₁ := allocateSellingCoin_iff.mpr ⟨c.hears_of_none hh _, h₁⟩
  obtain ⟨_, hv₁, r₁⟩ := allocateSellingCoin_ok h₁
  have hn₁ : BankNonneg c₁.s :=
    r₁.nonneg (by rw [xfersOf_allocEffs]; exact payXfers_nonneg h0) hnn
  obtain ⟨b₂, hb₂⟩ := pays_one (c := c₁) (by rw [r₁.ctl]; exact hf) .send (.sell v.a.id)
    (.user v.a.auctioneer) v.a.sellDenom (Int.le_refl _)
  obtain ⟨c₂, h₂⟩ : ∃ c₂, refundRemainingSellingCoin c₁ v.a = .ok c₂ :=
    ⟨_, refundRemainingSellingCoin_iff.mpr ⟨hn₁ _ _, b₂, hb₂, rfl⟩⟩
  obtain ⟨hS, hv₂, r₂⟩ := refundRemainingSellingCoin_ok h₂
  have r₁₂ := r₁.trans r₂
  have hn₂ : BankNonneg c₂.s := r₂.nonneg (fun t ht => by
    rw [List.mem_singleton.mp ht]; exact coinsOf_nonneg hS) hn₁
  -- the paying escrow has not moved yet
  have hpay : c₂.s.bank (.pay v.a.id) v.a.payDenom = c.s.bank (.pay aid) v.a.payDenom := by
    rw [r₁₂.apply, xfersOf_append, xfersOf_allocEffs, netFlow_untouched, Int.add_zero, hid]
    intro t ht
    rcases List.mem_append.mp ht with ht | ht
    · obtain ⟨e1, u, e2⟩ := payXfers_ends t ht
      rw [e1, e2]; exact ⟨nofun, nofun⟩
    · rw [List.mem_singleton.mp ht]; exact ⟨nofun, nofun⟩
  obtain ⟨c₃, h₃⟩ := payOut_total (.pay v.a.id) nofun v.a.payDenom mi.refund c₂
    (by rw [r₁₂.ctl]; exact hf) r0 (by rw [hpay]; exact rsum)
  obtain ⟨_, hv₃, r₃⟩ := payOut_ok h₃
  have hn₃ : BankNonneg c₃.s := r₃.nonneg (by rw [xfersOf_map_xfer]; exact payXfers_nonneg r0) hn₂
  obtain ⟨c', h₄⟩ := applyVestingSchedules_total (c₃.setView aid (v.priced mp))
    (by show c₃.ctl.fault = none; rw [r₃.ctl, r₁₂.ctl]; exact hf) aid (v.priced mp)
    (by rw [setView_views, hv₃, hv₂, hv₁]; exact getElem?_set_of_get hv) (hn₃ _ _) e hs
  exact ⟨c', c₁, h₁, c₂, h₂, c₃, h₃, h₄⟩

theorem closeFixed_total {c : Ctx} (hf : c.ctl.fault = none) (hh : c.ctl.failhook = none)
    {aid : Nat} {v : AView} (hv : c.s.views[aid]? = some v) (hid : v.a.id = aid)
    (hnn : BankNonneg c.s) {e : Int} (hs : validSchedules v.a.schedules e = true)
    (h0 : ∀ p ∈ (calcFixed v.a v.bids).alloc, 0 ≤ p.2)
    (hsum : ((calcFixed v.a v.bids).alloc.map (·.2)).sum ≤ c.s.bank (.sell aid) v.a.sellDenom) :
    ∃ c', closeFixed c aid = .ok c' :=
  let ⟨c', h⟩ := settle_total hf hh hv hid hnn hs (calcFixed v.a v.bids) v.a.matchedPrice h0 hsum nofun
    (hnn _ _)
  ⟨c', (closeFixed_iff hv).mpr h⟩

/-- `closeBatch`, given what `calcBatch` returns -/
theorem closeBatch_total {c : Ctx} (hf : c.ctl.fault = none) (hh : c.ctl.failhook = none)
    {aid : Nat} {v : AView} (hv : c.s.views[aid]? = some v) (hid : v.a.id = aid)
    (hnn : BankNonneg c.s) {e : Int} (hs : validSchedules v.a.schedules e = true) {mi : MInfo}
    (hmi : calcBatch v.a v.bids v.allowed = some mi)
    (h0 : ∀ p ∈ mi.alloc, 0 ≤ p.2)
    (hsum : (mi.alloc.map (·.2)).sum ≤ c.s.bank (.sell aid) v.a.sellDenom)
    (r0 : ∀ p ∈ mi.refund, 0 ≤ p.2)
    (rsum : (mi.refund.map (·.2)).sum ≤ c.s.bank (.pay aid) v.a.payDenom) :
    ∃ c', closeBatch c aid = .ok c' := by
  by_cases d : extDecision v mi
  · exact ⟨_, (closeBatch_iff hv).mpr ⟨mi, hmi, by rw [if_pos d]⟩⟩
  · obtain ⟨c', h⟩ := settle_total (c := c.setView aid (markBids v mi)) hf hh (getElem?_set_of_get hv)
      hid hnn hs mi (if mi.total > 0 then mi.price else 0) h0 hsum r0 rsum
    exact ⟨c', (closeBatch_iff hv).mpr ⟨mi, hmi, by rw [if_neg d]; exact h⟩⟩

open EscrowInv (due) in
/-- the sum in `hle` is `unreleasedTotal` of a record with queue `l` -/
theorem sendAll_relXfers (aid : Nat) (auc : Acc) (now : Int) (pd : Denom) (l : List VQ) (b : Bank)
    (hq : ∀ q ∈ l, 0 ≤ q.amt ∧ q.denom = pd)
    (hle : ((l.filter (fun q => !q.released)).map (·.amt)).sum ≤ b (.vest aid) pd) :
    ∃ b', b.sendAll (relXfers aid auc now l) = some b' := by
  have e : relXfers aid auc now l =
      (l.filter (due now)).map fun q => ⟨.send, .vest aid, .user auc, coinsOf pd q.amt⟩ :=
    List.map_congr_left fun q h => by rw [relXfer, (hq q (List.mem_filter.mp h).1).2]
  rw [e]
  exact sendAll_out (src := .vest aid) nofun pd _ _ _ b (fun q h => (hq q (List.mem_filter.mp h).1).1)
    (Int.le_trans (isum_filter_mono _ _ _ _ l (fun _ _ h => (EscrowInv.due_iff.mp h).2)
      (fun _ _ _ => Int.le_refl _) fun q h => (hq q h).1) hle)

theorem releaseVesting_total {aid : Nat} {pd : Denom} {c : Ctx} {v : AView} (hf : c.ctl.fault = none)
    (hv : c.s.views[aid]? = some v) (hq : ∀ q ∈ v.vqs, 0 ≤ q.amt ∧ q.denom = pd)
    (hle : ((v.vqs.filter (fun q => !q.released)).map (·.amt)).sum ≤ c.s.bank (.vest aid) pd) :
    ∃ c', releaseVesting c aid = .ok c' :=
  let ⟨b, hb⟩ := sendAll_relXfers aid v.a.auctioneer c.s.now pd v.vqs c.s.bank hq hle
  ⟨_, (releaseVesting_iff hv).mpr ⟨fun q h _ => (hq q h).1, b, .of_no_fault hf hb, rfl⟩⟩

theorem blockStep_total (c : Ctx) (hf : c.ctl.fault = none) (hh : c.ctl.failhook = none)
    (aid : Nat) (v : AView) (hv : c.s.views[aid]? = some v) (hwf : ViewWF aid v)
    (hcov : EscrowCovered c.s aid v) (hnn : BankNonneg c.s) : ∃ c', blockStep c aid = .ok c' := by
  have idle : (v.a.status = .standby → c.s.now < v.a.startTime) →
      (v.a.status = .started → v.a.endTimes ≠ [] ∧ c.s.now < v.a.lastEnd) → v.a.status ≠ .vesting →
      ∃ c', blockStep c aid = .ok c' :=
    fun h1 h2 h3 => ⟨c, (blockStep_iff hv).mpr (.inl ⟨rfl, h1, h2, h3⟩)⟩
  by_cases hs1 : v.a.status = .standby
  · by_cases hd : v.a.startTime ≤ c.s.now
    · exact ⟨_, (blockStep_iff hv).mpr (.inr (.inl ⟨hs1, hd, rfl⟩))⟩
    · exact idle (fun _ => by omega) (fun e => by rw [hs1] at e; cases e) (by rw [hs1]; nofun)
  by_cases hst : v.a.status = .started
  · have hne := hwf.auction.endNonempty
    by_cases hd : v.a.lastEnd ≤ c.s.now
    · have hsell : v.a.sellAmt ≤ c.s.bank (.sell aid) v.a.sellDenom := by
        have := hcov.sell
        unfold owedSell at this
        rwa [if_pos (Or.inr hst)] at this
      have hpay : reservedTotal v ≤ c.s.bank (.pay aid) v.a.payDenom := by
        have := hcov.pay
        unfold owedPay at this
        rwa [if_pos hst] at this
      cases hty : v.a.type with
      | fixed =>
        obtain ⟨f0, fsum⟩ := calcFixed_facts v
          (fun b hb => ⟨(hwf.bids b hb).price, (hwf.bids b hb).amt⟩)
        have hrem := hwf.remaining hty (Or.inr hst)
        obtain ⟨c', h⟩ := closeFixed_total hf hh hv hwf.id hnn hwf.auction.sched f0 (by rw [fsum]; omega)
        exact ⟨c', (blockStep_iff hv).mpr (.inr (.inr (.inl ⟨hst, hne, hd, .inl ⟨hty, h⟩⟩)))⟩
      | batch =>
        obtain ⟨mi, hmi, a0, asum, r0, rsum⟩ := calcBatch_facts v (bookWF_of_viewWF hwf hty)
        obtain ⟨c', h⟩ := closeBatch_total hf hh hv hwf.id hnn hwf.auction.sched hmi a0 (by omega) r0
          (by omega)
        exact ⟨c', (blockStep_iff hv).mpr (.inr (.inr (.inl ⟨hst, hne, hd, .inr ⟨hty, h⟩⟩)))⟩
    · exact idle (fun e => absurd e hs1) (fun _ => ⟨hne, by omega⟩) (by rw [hst]; nofun)
  by_cases hs3 : v.a.status = .vesting
  · obtain ⟨c', h⟩ := releaseVesting_total (pd := v.a.payDenom) hf hv
      (fun q hq => ⟨(hwf.vqsWF q hq).1, (hwf.vqsWF q hq).2.1⟩) (by
        have := hcov.vest
        unfold owedVest at this
        rwa [if_pos hs3] at this)
    exact ⟨c', (blockStep_iff hv).mpr (.inr (.inr (.inr ⟨hs3, h⟩)))⟩
  · exact idle (fun e => absurd e hs1) (fun e => absurd e hst) hs3

/-- what every iteration keeps, so that the next one goes through -/
structure Ready (c : Ctx) : Prop where
  fault : c.ctl.fault = none
  failhook : c.ctl.failhook = none
  wf : WF c.s
  nonneg : BankNonneg c.s
  covered : AllCovered c.s

theorem blockLoop_total : ∀ (l : List Nat) (c : Ctx), Ready c → (∀ j ∈ l, j < c.s.views.length) →
    ∃ c', blockLoop c l = .ok c'
  | [], c, _, _ => ⟨c, rfl⟩
  | aid :: rest, c, r, hl => by
    have hv := List.getElem?_eq_getElem (hl aid (List.mem_cons_self))
    have hwf := r.wf.views aid _ hv
    obtain ⟨c₁, h₁⟩ := blockStep_total c r.fault r.failhook aid _ hv hwf (r.covered aid _ hv) r.nonneg
    simp only [blockLoop]
    rw [h₁, Except.ok_bind]
    obtain ⟨_, _, o, E, ran, _⟩ := blockStep_foot h₁
    obtain ⟨w₁, n₁⟩ := WFInv.blockStep_wf h₁ r.wf
    have g := EscrowInv.blockStep_good h₁
    refine blockLoop_total rest c₁
      ⟨by rw [ran.ctl]; exact r.fault, by rw [ran.ctl]; exact r.failhook, w₁, n₁ r.nonneg,
        g.all EscrowInv.Keeps.covered (fun v hv => r.wf.views aid v hv) r.covered⟩ (fun j hj => ?_)
    rw [o.1]
    exact hl j (List.mem_cons_of_mem _ hj)

theorem beginBlock_total (s : Core) (ctl : Control) (t : Int) (hwf : WF s) (hnn : BankNonneg s)
    (hcov : AllCovered s) (hh : ctl.failhook = none) (hf : ctl.fault = none) :
    ∃ c', beginBlock { s := { s with now := t }, ctl := ctl } t = .ok c' := by
  simp only [beginBlock]
  exact blockLoop_total _ _ ⟨hf, hh, hwf.of_eqs rfl rfl rfl, hnn,
    fun j v hv => ⟨(hcov j v hv).sell, (hcov j v hv).pay, (hcov j v hv).vest⟩⟩
    (fun j hj => List.mem_range.1 hj)

end Fundraising
