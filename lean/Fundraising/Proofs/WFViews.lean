import Fundraising.Proofs.OpsMsgs
import Fundraising.Proofs.OpsBlock
import Fundraising.Proofs.MatchLemmas
import Fundraising.Proofs.GenesisProofs
/-
  The records the handlers write are well formed, and what a well-formed record guarantees
  about matching.  No handler is run here: every statement is about an `AView` (or an order
  book) and the record a handler writes from it.
-/
namespace Fundraising

theorem calcFixed_facts (v : AView) (hb : ∀ b ∈ v.bids, 0 < b.price ∧ 0 < b.amt) :
    (∀ p ∈ (calcFixed v.a v.bids).alloc, 0 ≤ p.2) ∧
    ((calcFixed v.a v.bids).alloc.map (·.2)).sum = soldOf v := by
  constructor
  · intro p hp
    obtain ⟨u, _, rfl⟩ := List.mem_map.1 hp
    exact sumOver_nonneg _ _ _ (fun b hb' => b.toSelling_nonneg _ (hb b hb').2 (hb b hb').1)
  · unfold calcFixed
    simp only [List.map_map]
    exact sum_sumOver_bidders (·.toSelling v.a.payDenom) v.bids

theorem bookWF_of_viewWF {i : Nat} {v : AView} (h : ViewWF i v) (ht : v.a.type = .batch) :
    BookWF v.a v.bids v.allowed where
  types := by
    intro b hb
    rcases (h.bids b hb).batch ht with ⟨h1, _⟩ | ⟨h1, _⟩
    · exact Or.inl h1
    · exact Or.inr h1
  denoms := by
    intro b hb
    rcases (h.bids b hb).batch ht with ⟨h1, h2⟩ | ⟨h1, h2⟩
    · refine ⟨fun _ => h2, fun e => ?_⟩
      rw [h1] at e; cases e
    · refine ⟨fun e => ?_, fun _ => ?_⟩
      · rw [h1] at e; cases e
      rw [h2]
      exact h.auction.denomNe
  prices := fun b hb => (h.bids b hb).price
  amts := fun b hb => (h.bids b hb).amt
  listed := fun b hb => (h.bids b hb).listed
  caps := fun x hx => (h.caps x hx).2
  supply := h.auction.sellPos
  ids := h.bidIds ▸ nodup_range_succ _

theorem calcBatch_facts (v : AView) (hw : BookWF v.a v.bids v.allowed) :
    ∃ mi, calcBatch v.a v.bids v.allowed = some mi ∧
      (∀ p ∈ mi.alloc, 0 ≤ p.2) ∧ (mi.alloc.map (·.2)).sum ≤ v.a.sellAmt ∧
      (∀ p ∈ mi.refund, 0 ≤ p.2) ∧ (mi.refund.map (·.2)).sum ≤ reservedTotal v := by
  have hs := sortBids_arrangement v.bids
  have hres : ((biddersOf v.bids).map (reservedOf v.bids v.a.payDenom)).sum = reservedTotal v :=
    sum_sumOver_bidders (·.toPaying v.a.payDenom) v.bids
  have hr0 := reservedOf_nonneg v.bids v.a.payDenom hw.amts hw.prices
  unfold calcBatch
  rcases calcBatchWith_cases v.a v.bids _ v.allowed hw hs with ⟨_, hc⟩ | ⟨p, acc, _, hp, hm, hc⟩
  · -- nothing sold: every allocation is 0, every refund is the reservation
    refine ⟨_, hc, ?_, ?_, ?_, ?_⟩ <;> simp only [noMatchInfo, List.map_map, List.mem_map]
    · rintro _ ⟨u, _, rfl⟩; exact Int.le_refl 0
    · show ((biddersOf v.bids).map (fun _ => (0 : Int))).sum ≤ _
      rw [isum_map_zero]; exact Int.le_of_lt hw.supply
    · rintro _ ⟨u, _, rfl⟩; exact hr0 u
    · exact Int.le_of_eq hres
  · -- sold at `p`: allocations are the capped demands, which add up to the total sold;
    -- payments are between 0 and the reservations
    have hsw := matchAt_swept v.a v.bids _ v.allowed p acc hw hs hp hm
    refine ⟨_, hc, ?_, ?_, ?_, ?_⟩ <;> simp only [matchInfo, List.map_map, List.mem_map]
    · rintro _ ⟨u, _, rfl⟩; exact hsw.alloc_nonneg hw hp u
    · show ((biddersOf v.bids).map (fun u => acc.alloc u)).sum ≤ _
      rw [List.map_congr_left (fun u _ => hsw.alloc u)]
      show demand v.bids v.allowed p ≤ _
      rw [← hsw.total]; exact hsw.fits
    · rintro _ ⟨u, _, rfl⟩
      have := hsw.payRes u
      unfold reservedOf at this; omega
    · rw [← hres]
      refine isum_map_le fun u _ => ?_
      have := hsw.pay_nonneg hw hp u
      unfold reservedOf
      simp only [Function.comp]
      omega

private theorem filter_ids_sublist_eq : ∀ {m l : List Bid}, m.Sublist l → (l.map (·.id)).Nodup →
    l.filter (fun b => (m.map (·.id)).contains b.id) = m := by
  intro m l hsub
  induction hsub with
  | slnil => intro _; rfl
  | @cons m0 l0 a hs ih =>
    -- `a` is dropped: its id is not among those of `m0`, which all occur in `l0`
    intro hnd
    rw [List.map_cons, List.nodup_cons] at hnd
    have hna : ¬ a.id ∈ m0.map (·.id) := fun hc =>
      let ⟨c, hc, e⟩ := List.mem_map.1 hc
      hnd.1 (List.mem_map.2 ⟨c, hs.subset hc, e⟩)
    rw [List.filter_cons, if_neg (by rwa [List.contains_iff_mem]), ih hnd.2]
  | @cons_cons m0 l0 a hs ih =>
    -- `a` is kept, and no bid of `l0` is selected because of `a`'s id
    intro hnd
    rw [List.map_cons, List.nodup_cons] at hnd
    rw [List.filter_cons, if_pos (by simp)]
    refine congrArg (a :: ·) (Eq.trans (List.filter_congr fun b hb => ?_) (ih hnd.2))
    have hne : b.id ≠ a.id := fun e => hnd.1 (List.mem_map.2 ⟨b, hb, e⟩)
    simp [hne]

private theorem matched_count_eq (bids sorted matched : List Bid) (hperm : sorted.Perm bids)
    (hnd : (bids.map (·.id)).Nodup) (hsub : matched.Sublist sorted) :
    (bids.filter (fun b => (matched.map (·.id)).contains b.id)).length = matched.length := by
  have hnd' : (sorted.map (·.id)).Nodup := ((hperm.map (·.id)).nodup_iff).2 hnd
  rw [← (hperm.filter _).length_eq, filter_ids_sublist_eq hsub hnd']

private theorem countMatched_flag (bids : List Bid) (ids : List Nat) :
    countMatched (bids.map (fun b => { b with matched := ids.contains b.id })) =
      ((bids.filter (fun b => ids.contains b.id)).length : Int) := by
  unfold countMatched
  rw [List.filter_map, List.length_map]
  rfl

/-- after `CalculateBatchAllocation` rewrote the matched flags, `MatchedBidsLen` equals the
    number of flagged bids -/
theorem calcBatch_matchedLen_count (a : Auction) (bids : List Bid) (allowed : List Allowed) (mi : MInfo)
    (hw : BookWF a bids allowed) (h : calcBatch a bids allowed = some mi) :
    mi.matchedLen = countMatched (bids.map (fun b => { b with matched := mi.matchedIds.contains b.id })) := by
  have hs := sortBids_arrangement bids
  unfold calcBatch at h
  rw [countMatched_flag]
  rcases calcBatchWith_cases a bids (sortBids bids) allowed hw hs with
    ⟨_, e⟩ | ⟨p, acc, _, hp, hfit, e⟩
  · rw [e] at h
    injection h with h
    subst h
    simp [noMatchInfo, List.filter_eq_nil_iff.2]
  · rw [e] at h
    injection h with h
    subst h
    have hsub := (matchAt_swept a bids (sortBids bids) allowed p acc hw hs hp hfit).sublist
    have := matched_count_eq bids (sortBids bids) acc.matched hs.1 hw.ids hsub
    simp only [matchInfo]
    rw [this]

namespace WFInv

theorem _root_.Fundraising.ViewWF.addBid {aid : Nat} {v : AView} {r' : Int} {bid : Bid} (V : ViewWF aid v)
    (hst : v.a.status = .started) (hb : BidWF v.a v.allowed bid) (hid : bid.id = v.bidSeq + 1)
    (hm : v.a.type = .batch → bid.matched = false)
    (hr : v.a.type = .fixed → r' = v.a.remaining - bid.toSelling v.a.payDenom ∧ 0 ≤ r') :
    ViewWF aid { v with a := { v.a with remaining := r' }, bids := v.bids ++ [bid],
                        bidSeq := v.bidSeq + 1 } := by
  exact { V with
    auction := { V.auction with }
    bids := by
      intro b hbm
      rcases List.mem_append.mp hbm with hbm | hbm
      · exact { V.bids b hbm with }
      · rw [List.mem_singleton.1 hbm]; exact { hb with }
    bidIds := by
      show (v.bids ++ [bid]).map (·.id) = (List.range (v.bids ++ [bid]).length).map (· + 1)
      rw [List.map_append, V.bidIds, List.length_append, List.length_singleton, List.range_succ,
        List.map_append, List.map_singleton, List.map_singleton, hid, V.bidSeq]
    bidSeq := by
      show v.bidSeq + 1 = (v.bids ++ [bid]).length
      rw [List.length_append, List.length_singleton, V.bidSeq]
    noBidsBefore := by
      intro (h : v.a.status = .standby ∨ v.a.status = .cancelled)
      rw [hst] at h; simp at h
    matchedLenBatch := by
      intro (ht : v.a.type = .batch)
      show v.matchedLen = countMatched (v.bids ++ [bid])
      -- an unmatched bid does not count
      rw [V.matchedLenBatch ht]
      simp [countMatched, List.filter_append, hm ht]
    remaining := by
      intro (ht : v.a.type = .fixed) _
      obtain ⟨h1, h2⟩ := hr ht
      obtain ⟨h3, _⟩ := V.remaining ht (Or.inr hst)
      refine ⟨?_, h2⟩
      show r' = v.a.sellAmt - ((v.bids ++ [bid]).map (·.toSelling v.a.payDenom)).sum
      rw [List.map_append, List.sum_append_int]
      unfold soldOf at h3
      simp only [List.map_cons, List.map_nil, List.sum_cons, List.sum_nil]
      omega }

theorem toSelling_matched (b : Bid) (m : Bool) (pd : Denom) :
    ({ b with matched := m } : Bid).toSelling pd = b.toSelling pd := rfl

theorem _root_.Fundraising.ViewWF.placed {aid : Nat} {v : AView} {b : Bid} (V : ViewWF aid v) (hst : v.a.status = .started)
    (hb : BidWF v.a v.allowed b) (hid : b.id = v.bidSeq + 1) (hm : b.matched = false)
    (hr : b.type = .fixed → b.toSelling v.a.payDenom ≤ v.a.remaining) : ViewWF aid (v.placed b) := by
  have hrem := fun ht => (V.remaining ht (Or.inr hst)).2
  unfold AView.placed
  by_cases hf : b.type = .fixed
  · rw [if_pos hf, if_pos hf]
    refine V.addBid hst { hb with } hid (fun ht => ?_) fun ht => ⟨rfl, ?_⟩
    · rcases hb.batch ht with ⟨h, _⟩ | ⟨h, _⟩ <;> rw [hf] at h <;> cases h
    · have := hr hf; have := hrem ht; show 0 ≤ v.a.remaining - b.toSelling v.a.payDenom; omega
  · rw [if_neg hf, if_neg hf]
    exact V.addBid (r' := v.a.remaining) hst hb hid (fun _ => hm) fun ht => absurd (hb.fixed ht).1 hf

theorem bidIds_at {l : List Bid} (h : l.map (·.id) = (List.range l.length).map (· + 1))
    {i : Nat} {b : Bid} (hb : l[i]? = some b) : b.id = i + 1 := by
  have h1 : (l.map (·.id))[i]? = some b.id := by simp [hb]
  rw [h] at h1
  simp [lt_of_getElem? hb] at h1
  omega

theorem bidIds_inj {l : List Bid} (h : l.map (·.id) = (List.range l.length).map (· + 1))
    {a b : Bid} (ha : a ∈ l) (hb : b ∈ l) (e : a.id = b.id) : a = b := by
  obtain ⟨i, hi⟩ := List.getElem?_of_mem ha
  obtain ⟨j, hj⟩ := List.getElem?_of_mem hb
  have h1 := bidIds_at h hi
  have h2 := bidIds_at h hj
  have : i = j := by omega
  subst this
  rw [hi] at hj
  exact Option.some.inj hj

/-- replacing the bid with id `bidId` by `nb` replaces `bid` and nothing else: ids are distinct -/
theorem modified_at {l : List Bid} (h : l.map (·.id) = (List.range l.length).map (· + 1))
    {bid : Bid} {bidId : Nat} (hbid : bid ∈ l) (hid : bid.id = bidId) (nb : Bid) {b : Bid} (hb : b ∈ l) :
    (b = bid ∧ (if b.id == bidId then nb else b) = nb) ∨
      (b.id ≠ bidId ∧ (if b.id == bidId then nb else b) = b) := by
  by_cases e : b.id = bidId
  · exact Or.inl ⟨bidIds_inj h hb hbid (e.trans hid.symm), if_pos (beq_iff_eq.mpr e)⟩
  · exact Or.inr ⟨e, if_neg (by simpa using e)⟩

theorem _root_.Fundraising.ViewWF.mapBids {i : Nat} {v : AView} (V : ViewWF i v) (ht : v.a.type = .batch) (f : Bid → Bid)
    {n : Int} (hid : ∀ b, (f b).id = b.id) (hwf : ∀ b ∈ v.bids, BidWF v.a v.allowed (f b))
    (hn : n = countMatched (v.bids.map f)) :
    ViewWF i { v with bids := v.bids.map f, matchedLen := n } :=
  { V with
    bids := fun _ hb' =>
      let ⟨b, hb, e⟩ := List.mem_map.mp hb'
      e ▸ hwf b hb
    bidIds := by
      show (v.bids.map f).map (·.id) = (List.range (v.bids.map f).length).map (· + 1)
      rw [List.length_map, ← V.bidIds, List.map_map]
      exact List.map_congr_left fun b _ => hid b
    bidSeq := by
      show v.bidSeq = (v.bids.map f).length
      rw [List.length_map, V.bidSeq]
    noBidsBefore := fun h => by
      show v.bids.map f = []
      rw [V.noBidsBefore h, List.map_nil]
    matchedLenBatch := fun _ => hn
    matchedLenFixed := fun (h : v.a.type = .fixed) => by rw [ht] at h; cases h
    remaining := fun (h : v.a.type = .fixed) => by rw [ht] at h; cases h }

theorem _root_.Fundraising.ViewWF.modified {aid : Nat} {v : AView} {bid : Bid} {bidId : Nat} {price : Dec} {amt : Int}
    (V : ViewWF aid v) (hbid : bid ∈ v.bids) (hid : bid.id = bidId) (ht : v.a.type = .batch)
    (hprice : 0 < price) (hamt : 0 < amt) (hmin : v.a.minBid ≤ price) :
    ViewWF aid (v.modified bidId { bid with price := price, amt := amt }) := by
  refine V.mapBids ht _ (fun b => ?_) (fun b hb => ?_) ?_
  · split
    · exact hid.trans (beq_iff_eq.mp ‹_›).symm
    · rfl
  · split
    · exact { V.bids bid hbid with
        price := hprice
        amt := hamt
        fixed := by intro hb; rw [ht] at hb; cases hb
        minBid := fun _ => hmin }
    · exact V.bids b hb
  · -- the flags are kept
    rw [V.matchedLenBatch ht]
    unfold countMatched
    rw [List.filter_map, List.length_map]
    refine congrArg (fun l : List Bid => (l.length : Int)) (List.filter_congr fun b hb => ?_)
    show b.matched = (if b.id == bidId then { bid with price := price, amt := amt } else b).matched
    rcases modified_at V.bidIds hbid hid { bid with price := price, amt := amt } hb with ⟨rfl, e⟩ | ⟨-, e⟩ <;> rw [e]

theorem setAllowed_sorted {x : Allowed} {l : List Allowed}
    (h : (l.map (·.bidder)).Pairwise (· < ·)) : ((setAllowed l x).map (·.bidder)).Pairwise (· < ·) :=
  (allowedSorted_iff _).2 (upsertBy_sorted _ x ((allowedSorted_iff l).1 h))

theorem setAllowed_keys {x : Allowed} {l : List Allowed} {w : Allowed} (hw : w ∈ l) :
    ∃ z ∈ setAllowed l x, z.bidder = w.bidder :=
  let ⟨z, hz, hk⟩ := upsertBy_kept (fun a : Allowed => (a.bidder : Int)) x l w hw
  ⟨z, hz, Int.ofNat_inj.1 hk⟩

theorem lookupAllowed_isSome_iff {l : List Allowed} {u : Acc} :
    (lookupAllowed l u).isSome = true ↔ ∃ w ∈ l, w.bidder = u := by
  unfold lookupAllowed
  simp [List.find?_isSome]

theorem setAllowed_caps {l : List Allowed} {x : Allowed}
    (hl : ∀ y ∈ l, validAcc y.bidder = true ∧ 0 < y.cap)
    (hx : validAcc x.bidder = true ∧ 0 < x.cap) :
    ∀ y ∈ setAllowed l x, validAcc y.bidder = true ∧ 0 < y.cap := by
  intro y hy
  rcases mem_upsertBy _ hy with rfl | hy
  · exact hx
  · exact hl y hy

theorem setAllowed_foldl_keys : ∀ {abs : List AllowedArg} {l : List Allowed} {w : Allowed}, w ∈ l →
    ∃ z ∈ abs.foldl (fun l ab => setAllowed l ⟨ab.bidder, ab.cap⟩) l, z.bidder = w.bidder
  | [], _, w, hw => ⟨w, hw, rfl⟩
  | _ :: rest, _, _, hw =>
    let ⟨_, hy, e⟩ := setAllowed_keys hw
    let ⟨z, hz, e'⟩ := setAllowed_foldl_keys (abs := rest) hy
    ⟨z, hz, e'.trans e⟩

theorem setAllowed_foldl_wf : ∀ {abs : List AllowedArg} {l : List Allowed},
    (∀ ab ∈ abs, validAcc ab.bidder = true ∧ 0 < ab.cap) →
    (l.map (·.bidder)).Pairwise (· < ·) → (∀ y ∈ l, validAcc y.bidder = true ∧ 0 < y.cap) →
    ((abs.foldl (fun l ab => setAllowed l ⟨ab.bidder, ab.cap⟩) l).map (·.bidder)).Pairwise (· < ·) ∧
      ∀ y ∈ abs.foldl (fun l ab => setAllowed l ⟨ab.bidder, ab.cap⟩) l, validAcc y.bidder = true ∧ 0 < y.cap
  | [], _, _, hs, hc => ⟨hs, hc⟩
  | ab :: rest, _, hok, hs, hc =>
    setAllowed_foldl_wf (abs := rest) (fun x hx => hok x (List.mem_cons_of_mem _ hx)) (setAllowed_sorted hs)
      (setAllowed_caps hc (hok ab List.mem_cons_self))

theorem _root_.Fundraising.ViewWF.setAllowedList {i : Nat} {v : AView} (V : ViewWF i v) {l : List Allowed}
    (hs : (l.map (·.bidder)).Pairwise (· < ·))
    (hc : ∀ y ∈ l, validAcc y.bidder = true ∧ 0 < y.cap)
    (hk : ∀ y ∈ v.allowed, ∃ z ∈ l, z.bidder = y.bidder) :
    ViewWF i { v with allowed := l } :=
  { V with
    bids := fun b hb => { V.bids b hb with
      listed :=
        let ⟨y, hy, e⟩ := lookupAllowed_isSome_iff.1 (V.bids b hb).listed
        let ⟨z, hz, e'⟩ := hk y hy
        lookupAllowed_isSome_iff.2 ⟨z, hz, e'.trans e⟩ }
    caps := hc
    allowedSorted := hs }

theorem _root_.Fundraising.ViewWF.cancelled {aid : Nat} {v : AView} (V : ViewWF aid v) (hst : v.a.status = .standby) :
    ViewWF aid v.cancelled := by
  unfold AView.cancelled
  have hb0 : v.bids = [] := V.noBidsBefore (Or.inl hst)
  have hq0 : v.vqs = [] := V.vqsNone (Or.inl hst)
  exact { V with
    auction := { V.auction with }
    bids := by simp [hb0]
    noBidsBefore := fun _ => hb0
    remaining := by intro _ h; simp at h
    vqsNone := fun _ => hq0
    vqsSome := by intro h; simp at h
    vqsWF := by simp [hq0]
    vestingOpen := by intro h; simp at h
    finishedAll := by intro h; simp at h }

theorem _root_.Fundraising.ViewWF.created {m : CreateMsg} (hvb : validateBasic (.create m) = true)
    (hc2 : m.schedules.length ≤ 100) (hc3 : m.type = .batch → m.maxExt ≤ 30) (id : Nat) (now : Int) :
    ViewWF id (m.view id now) := by
  unfold validateBasic at hvb
  simp only [Bool.and_eq_true, decide_eq_true_eq, Bool.or_eq_true, bne_iff_ne, ne_eq] at hvb
  obtain ⟨⟨⟨⟨⟨⟨⟨⟨⟨v1, v2⟩, v3⟩, v4⟩, v5⟩, v6⟩, v7⟩, _⟩, v9⟩, v10⟩ := hvb
  unfold validCoin at v4
  simp only [Bool.and_eq_true, decide_eq_true_eq] at v4
  have hnew : ∀ s, (if m.startTime ≤ now then Status.started else Status.standby) = s →
      s = .started ∨ s = .standby := by
    intro s h
    split at h <;> simp [← h]
  unfold CreateMsg.view
  exact {
    id := rfl
    auction := {
      auctioneer := v1
      sellPos := v5
      pricePos := v2
      denomNe := v6
      sellDenomOk := v4.1
      payDenomOk := v7
      endNonempty := by simp
      endLen := by simp
      maxExt := by
        show (if m.type = AType.batch then m.maxExt else 0) ≤ 30
        split
        · exact hc3 ‹_›
        · omega
      sched := by simpa using v10
      schedLen := hc2
      batch := by
        intro (hb : m.type = .batch)
        show 0 < (if m.type = AType.batch then m.minBid else 0) ∧
          0 < (if m.type = AType.batch then m.rate else 0)
        rw [if_pos hb, if_pos hb]
        exact ⟨v3.resolve_left (not_not_intro hb), v9.resolve_left (not_not_intro hb)⟩
      fixed := by
        intro (hb : m.type = .fixed)
        show (if m.type = AType.batch then m.maxExt else 0) = 0
        rw [if_neg (by rw [hb]; decide)] }
    bids := by intro b hb; cases hb
    bidIds := rfl
    bidSeq := rfl
    caps := by intro b hb; cases hb
    allowedSorted := List.Pairwise.nil
    noBidsBefore := fun _ => rfl
    matchedLenBatch := fun _ => rfl
    matchedLenFixed := fun _ => rfl
    remaining := by
      intro (hb : m.type = .fixed) _
      show (if m.type = AType.fixed then m.sellAmt else 0) = m.sellAmt - soldOf _ ∧
        0 ≤ (if m.type = AType.fixed then m.sellAmt else 0)
      rw [if_pos hb]
      simp [soldOf]; omega
    vqsNone := fun _ => rfl
    vqsSome := fun h => by rcases h with h | h <;> rcases hnew _ h with e | e <;> cases e
    vqsWF := by intro b hb; cases hb
    releasedPrefix := List.Pairwise.nil
    vestingOpen := fun h => by rcases hnew _ h with e | e <;> cases e
    finishedAll := by intro _ b hb; cases hb }

theorem _root_.Fundraising.ViewWF.opened {aid : Nat} {v : AView} (V : ViewWF aid v) (hs : v.a.status = .standby) :
    ViewWF aid v.opened :=
  have hb0 : v.bids = [] := V.noBidsBefore (Or.inl hs)
  { V with
    auction := { V.auction with }
    bids := fun b hb => { V.bids b hb with }
    noBidsBefore := fun _ => hb0
    remaining := fun h _ => V.remaining h (Or.inl hs)
    vqsNone := fun _ => V.vqsNone (Or.inl hs)
    vqsSome := by intro h; simp [AView.opened] at h
    vestingOpen := by intro h; simp [AView.opened] at h
    finishedAll := by intro h; simp [AView.opened] at h }

theorem _root_.Fundraising.ViewWF.priced {i : Nat} {v : AView} (V : ViewWF i v) (p : Dec) :
    ViewWF i (v.priced p) :=
  { V with
    auction := { V.auction with }
    bids := fun b hb => { V.bids b hb with } }

/-- a record taken to `vesting` or `finished` with the vesting queue `qs`: only the clauses
    about the queue are left to show -/
theorem _root_.Fundraising.ViewWF.withQueue {i : Nat} {v : AView} (V : ViewWF i v) {st : Status} {qs : List VQ}
    (hst : st = .vesting ∨ st = .finished)
    (hrel : qs.map (·.release) = v.a.schedules.map (·.release))
    (hwf : ∀ q ∈ qs, 0 ≤ q.amt ∧ q.denom = v.a.payDenom ∧ q.auctioneer = v.a.auctioneer ∧ q.auction = i)
    (hpre : qs.Pairwise (fun q q' => q'.released = true → q.released = true))
    (hopen : st = .vesting → ∃ q, qs.getLast? = some q ∧ q.released = false)
    (hfin : st = .finished → ∀ q ∈ qs, q.released = true) :
    ViewWF i { v with a := { v.a with status := st }, vqs := qs } :=
  { V with
    auction := { V.auction with }
    bids := fun b hb => { V.bids b hb with }
    noBidsBefore := by intro h; rcases hst with e | e <;> simp [e] at h
    remaining := by intro _ h; rcases hst with e | e <;> simp [e] at h
    vqsNone := by intro h; rcases hst with e | e <;> simp [e] at h
    vqsSome := fun _ => hrel
    vqsWF := hwf
    releasedPrefix := hpre
    vestingOpen := hopen
    finishedAll := hfin }

open ProgressInv (Settled vqOf) in
theorem _root_.Fundraising.ViewWF.settled {aid : Nat} {v w : AView} {R : Int} (h : Settled aid v R w)
    (V : ViewWF aid v) (hst : v.a.status = .started) (hR : 0 ≤ R) : ViewWF aid w := by
  have hq0 : v.vqs = [] := V.vqsNone (Or.inr (Or.inl hst))
  by_cases hs0 : v.a.schedules = []
  · have e : ({ v with a := { v.a with status := .finished } } : AView) =
        { v with a := { v.a with status := .finished }, vqs := [] } := by rw [← hq0]
    rw [h.1 hs0, e]
    exact V.withQueue (Or.inr rfl) (by rw [hs0]; rfl) nofun .nil nofun nofun
  · obtain ⟨hvw, _, hsorted⟩ := validSchedules_spec _ _ hs0 V.auction.sched
    obtain ⟨parts, hsp, hrel, _, hnn, _⟩ := splitLoop_spec R v.a.schedules hR hvw
    rcases h.cases hq0 hsorted with ⟨e, _⟩ | ⟨_, parts', hsp', rfl⟩
    · exact absurd e hs0
    rw [hsp] at hsp'
    cases hsp'
    refine V.withQueue (Or.inl rfl) (by rw [List.map_map, ← hrel]; rfl) ?_ ?_ (fun _ => ?_) nofun
    · intro q hq
      obtain ⟨p, hp, rfl⟩ := List.mem_map.mp hq
      exact ⟨hnn p hp, rfl, rfl, rfl⟩
    · rw [List.pairwise_map]
      exact List.pairwise_of_forall (by intro a b h; cases h)
    · have hpne : parts ≠ [] := by
        intro e; rw [e] at hrel
        exact hs0 (List.map_eq_nil_iff.mp hrel.symm)
      obtain ⟨p, hp⟩ : ∃ p, parts.getLast? = some p := by
        cases hgl : parts.getLast? with
        | none => exact absurd (List.getLast?_eq_none_iff.mp hgl) hpne
        | some p => exact ⟨p, rfl⟩
      rw [List.getLast?_map, hp]
      exact ⟨_, rfl, rfl⟩

section
open EscrowInv (due rel rel_not_due rel_release rel_released_iff all_released)

theorem _root_.Fundraising.ViewWF.released {aid : Nat} {v : AView} (V : ViewWF aid v) (hst : v.a.status = .vesting)
    (t : Int) : ViewWF aid (v.released t) := by
  have hs := vqs_sorted aid v V
  refine V.withQueue (st := if v.vqs.getLast?.any (due t) then .finished else v.a.status) ?_ ?_ ?_
    ?_ (fun h => ?_) (fun h => ?_)
  · rw [hst]; split
    · exact Or.inr rfl
    · exact Or.inl rfl
  · rw [List.map_map, ← V.vqsSome (Or.inl hst)]
    exact List.map_congr_left (fun q _ => rel_release t q)
  · intro x hx
    obtain ⟨q, hq, rfl⟩ := List.mem_map.mp hx
    unfold rel
    split <;> exact V.vqsWF q hq
  · -- an instalment in front of a released or due one is itself released or due
    rw [List.pairwise_map]
    rw [List.pairwise_map] at hs
    refine (hs.and V.releasedPrefix).imp ?_
    intro q q' ⟨hlt, hpre⟩
    rw [rel_released_iff, rel_released_iff]
    rintro (h | h)
    · exact Or.inl (hpre h)
    · exact Or.inr (by omega)
  · -- still vesting: the last instalment was not due, so it is still unpaid
    obtain ⟨q, hq, hqr⟩ := V.vestingOpen hst
    rw [hq, hst] at h
    have hnd : ¬ due t q = true := by simpa using h
    refine ⟨q, ?_, hqr⟩
    rw [List.getLast?_map, hq, Option.map_some, rel_not_due hnd]
  · -- finished: the last instalment was due, and with it every earlier one
    obtain ⟨q, hq, -⟩ := V.vestingOpen hst
    rw [hq, hst] at h
    exact all_released hs hq (by simpa using h)

end

theorem _root_.Fundraising.ViewWF.extended {i : Nat} {v : AView} (V : ViewWF i v)
    (hlen : v.a.maxExt + 1 ≠ v.a.endTimes.length) (period : Nat) : ViewWF i (v.extended period) := by
  have A := V.auction
  exact { V with
    auction := { A with
      endNonempty := List.append_ne_nil_of_right_ne_nil _ (List.cons_ne_nil _ _)
      endLen := by
        show (v.a.endTimes ++ [_]).length ≤ v.a.maxExt + 1
        have := A.endLen
        rw [List.length_append, List.length_singleton]
        omega
      sched := by
        -- the schedule is checked against the FIRST end time, which an extension keeps
        show validSchedules v.a.schedules ((v.a.endTimes ++ [_]).headD 0) = true
        have := A.sched
        cases he : v.a.endTimes with
        | nil => exact absurd he A.endNonempty
        | cons x xs => rw [he] at this; exact this }
    bids := fun b hb => { V.bids b hb with } }

theorem _root_.Fundraising.ViewWF.markBids {i : Nat} {v : AView} {mi : MInfo} (V : ViewWF i v) (ht : v.a.type = .batch)
    (hcb : calcBatch v.a v.bids v.allowed = some mi) :
    ViewWF i (markBids v mi) :=
  V.mapBids ht _ (fun _ => rfl) (fun b hb => { V.bids b hb with })
    (calcBatch_matchedLen_count v.a v.bids v.allowed mi (bookWF_of_viewWF V ht) hcb)

end WFInv

end Fundraising
