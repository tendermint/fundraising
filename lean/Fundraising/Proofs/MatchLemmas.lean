import Fundraising.Proofs.MatchSweep
/-
  Batch clearing above the sweep (Proofs/MatchSweep), for every arrangement of the bids:
  Go's `sort.Search` loop returns the result at the least fitting index (`searchLoop_least`),
  read over the descending price list as the least fitting price (`searchLoop_desc`); what a
  successful sweep at a price establishes (`Swept`); capped demand is antitone in the price;
  the two outcomes of `calcBatchWith` (`calcBatchWith_cases`, from which Props/C03 and
  Proofs/WFViews read their facts) and, read through `lookupAmt`, the bounds Props/C04 and
  Props/C05 cite (`calcBatchWith_bounds`).
-/
namespace Fundraising

/-! ### `sort.Search` -/

theorem searchLoop_inv (f : Nat → MRes) (n : Nat)
    (hnp : ∀ h, h < n → f h ≠ .panic)
    (hmono : ∀ h h', h ≤ h' → h' < n → (∃ acc, f h = .fit acc) → ∃ acc, f h' = .fit acc) :
    ∀ (fuel i j : Nat) (last : Option MAcc), i ≤ j → j ≤ n → j ≤ i + fuel →
      (∀ h, h < i → f h = .nofit) →
      (j < n → ∃ acc, f j = .fit acc ∧ last = some acc) →
      (j = n → last = none) →
      ((∀ h, h < n → f h = .nofit) ∧ searchLoop f fuel i j last = some none ∨
       ∃ h acc, h < n ∧ f h = .fit acc ∧ (∀ h', h' < h → f h' = .nofit) ∧
         searchLoop f fuel i j last = some (some acc)) := by
  have done : ∀ (i : Nat) (last : Option MAcc), i ≤ n →
      (∀ h, h < i → f h = .nofit) →
      (i < n → ∃ acc, f i = .fit acc ∧ last = some acc) →
      (i = n → last = none) →
      ((∀ h, h < n → f h = .nofit) ∧ some last = some none ∨
       ∃ h acc, h < n ∧ f h = .fit acc ∧ (∀ h', h' < h → f h' = .nofit) ∧
         some last = some (some acc)) := by
    intro i last hin hlo hj1 hj2
    by_cases hi : i = n
    · left; subst hi; exact ⟨hlo, by rw [hj2 rfl]⟩
    · right
      obtain ⟨acc, h1, h2⟩ := hj1 (by omega)
      exact ⟨i, acc, by omega, h1, hlo, by rw [h2]⟩
  have stop : ∀ (fuel i : Nat) (last : Option MAcc), searchLoop f fuel i i last = some last := by
    intro fuel i last
    cases fuel <;> simp only [searchLoop, Nat.lt_irrefl, if_false]
  intro fuel
  induction fuel with
  | zero =>
    intro i j last hij hjn hfuel hlo hj1 hj2
    obtain rfl : i = j := by omega
    rw [stop]
    exact done i last hjn hlo hj1 hj2
  | succ fuel ih =>
    intro i j last hij hjn hfuel hlo hj1 hj2
    rcases Nat.lt_or_eq_of_le hij with hlt | rfl
    · -- the probe `m` lies in `[i, j)`; nothing else about it matters
      obtain ⟨m, hm, him, hmj⟩ : ∃ m, m = (i + j) / 2 ∧ i ≤ m ∧ m < j := ⟨_, rfl, by omega, by omega⟩
      have hmn : m < n := Nat.lt_of_lt_of_le hmj hjn
      simp only [searchLoop, hlt, if_true, ← hm]
      cases hf : f m with
      | panic => exact absurd hf (hnp m hmn)
      | nofit =>
        -- nothing below `m` fits either: a fit below would make `m` fit
        refine ih (m + 1) j last hmj hjn (by omega) (fun h' hh' => ?_) hj1 hj2
        cases hf' : f h' with
        | panic => exact absurd hf' (hnp h' (Nat.lt_of_lt_of_le hh' hmn))
        | nofit => rfl
        | fit acc =>
          obtain ⟨acc', hacc'⟩ := hmono h' m (Nat.le_of_lt_succ hh') hmn ⟨acc, hf'⟩
          rw [hf] at hacc'; cases hacc'
      | fit acc =>
        exact ih i m (some acc) him (Nat.le_of_lt hmn) (by omega) hlo (fun _ => ⟨acc, hf, rfl⟩)
          (fun e => absurd (e ▸ hmn) (Nat.lt_irrefl n))
    · rw [stop]
      exact done i last hjn hlo hj1 hj2

/-- Go's `sort.Search` loop with the closure's stored result: for a predicate that is
    monotone in the index (once it fits it fits for every larger index) and never panics,
    the loop returns the result at the LEAST fitting index, or nothing if none fits. -/
theorem searchLoop_least (f : Nat → MRes) (n : Nat)
    (hnp : ∀ h, h < n → f h ≠ .panic)
    (hmono : ∀ h h', h ≤ h' → h' < n → (∃ acc, f h = .fit acc) → ∃ acc, f h' = .fit acc) :
    (∀ h, h < n → f h = .nofit) ∧ searchLoop f n 0 n none = some none ∨
    ∃ h acc, h < n ∧ f h = .fit acc ∧ (∀ h', h' < h → f h' = .nofit) ∧
      searchLoop f n 0 n none = some (some acc) :=
  searchLoop_inv f n hnp hmono n 0 n none (Nat.zero_le _) (Nat.le_refl _) (by omega)
    (fun h hh => absurd hh (Nat.not_lt_zero _)) (fun h => absurd h (Nat.lt_irrefl _)) (fun _ => rfl)

/-! ### the search as `CalculateBatchAllocation` runs it: over a descending list, from its end -/

theorem getD_rev_eq (ps : List Dec) (h : Nat) (hh : h < ps.length) :
    ps.getD (ps.length - 1 - h) 0 = ps[ps.length - 1 - h]'(by omega) := by
  have : ps.length - 1 - h < ps.length := by omega
  rw [List.getD_eq_getElem?_getD, List.getElem?_eq_getElem this]; rfl

theorem getD_rev_mem (ps : List Dec) (h : Nat) (hh : h < ps.length) :
    ps.getD (ps.length - 1 - h) 0 ∈ ps := by
  rw [getD_rev_eq ps h hh]; exact List.getElem_mem _

theorem getD_rev_lt (ps : List Dec) (hdesc : ps.Pairwise (fun x y => y < x)) (h h' : Nat)
    (hlt : h < h') (hh : h' < ps.length) :
    ps.getD (ps.length - 1 - h) 0 < ps.getD (ps.length - 1 - h') 0 := by
  rw [getD_rev_eq ps h (by omega), getD_rev_eq ps h' hh]
  exact List.pairwise_iff_getElem.1 hdesc (ps.length - 1 - h') (ps.length - 1 - h)
    (by omega) (by omega) (by omega)

theorem getD_rev_surj (ps : List Dec) (x : Dec) (hx : x ∈ ps) :
    ∃ h, h < ps.length ∧ ps.getD (ps.length - 1 - h) 0 = x := by
  obtain ⟨i, hi, e⟩ := List.mem_iff_getElem.1 hx
  refine ⟨ps.length - 1 - i, by omega, ?_⟩
  rw [getD_rev_eq ps _ (by omega)]
  have : ps.length - 1 - (ps.length - 1 - i) = i := by omega
  simp only [this]; exact e

/-- the same result in terms of the elements of the list, with no index left: the search
    returns what `g` returns at the LEAST element of `ps` at which `g` fits -/
theorem searchLoop_desc (ps : List Dec) (hdesc : ps.Pairwise (fun x y => y < x)) (g : Dec → MRes)
    (hnp : ∀ p ∈ ps, g p ≠ .panic)
    (hmono : ∀ p ∈ ps, ∀ q ∈ ps, p ≤ q → (∃ acc, g p = .fit acc) → ∃ acc, g q = .fit acc) :
    (∀ p ∈ ps, g p = .nofit) ∧
      searchLoop (fun h => g (ps.getD (ps.length - 1 - h) 0)) ps.length 0 ps.length none = some none ∨
    ∃ p ∈ ps, ∃ acc, g p = .fit acc ∧ (∀ q ∈ ps, q < p → g q = .nofit) ∧
      searchLoop (fun h => g (ps.getD (ps.length - 1 - h) 0)) ps.length 0 ps.length none =
        some (some acc) := by
  rcases searchLoop_least (fun h => g (ps.getD (ps.length - 1 - h) 0)) ps.length
      (fun h hh => hnp _ (getD_rev_mem ps h hh))
      (fun h h' hle hh' => by
        refine hmono _ (getD_rev_mem ps h (by omega)) _ (getD_rev_mem ps h' hh') ?_
        rcases Nat.lt_or_eq_of_le hle with hlt | rfl
        · exact Int.le_of_lt (getD_rev_lt ps hdesc h h' hlt hh')
        · exact Int.le_refl _) with
    ⟨hall, hres⟩ | ⟨h, acc, hh, hf, hlow, hres⟩
  · refine Or.inl ⟨fun q hq => ?_, hres⟩
    obtain ⟨h, hh, rfl⟩ := getD_rev_surj ps q hq
    exact hall h hh
  · refine Or.inr ⟨_, getD_rev_mem ps h hh, acc, hf, fun q hq hlt => ?_, hres⟩
    obtain ⟨h', hh', rfl⟩ := getD_rev_surj ps q hq
    -- a smaller element sits at a smaller index from the end
    refine hlow h' (Nat.lt_of_not_le fun hge => ?_)
    rcases Nat.lt_or_eq_of_le hge with hl | rfl
    · exact absurd (Int.lt_trans (getD_rev_lt ps hdesc h h' hl hh') hlt) (Int.lt_irrefl _)
    · exact absurd hlt (Int.lt_irrefl _)

/-! ### the sweep at a price, in the terms of Spec/Clearing -/

theorem matchAt_fits_iff (a : Auction) (bids sorted : List Bid) (allowed : List Allowed) (p : Dec)
    (hw : BookWF a bids allowed) (hs : Arrangement bids sorted) (hp : 0 < p) :
    (∃ acc, matchAt p sorted a.sellAmt allowed = .fit acc) ↔ demand bids allowed p ≤ a.sellAmt := by
  rcases matchAt_spec a bids sorted allowed p hw hs hp with ⟨h1, h2⟩ | ⟨h1, acc, h2, _⟩
  · rw [h2]
    exact ⟨fun ⟨_, e⟩ => MRes.noConfusion e, fun h3 => by omega⟩
  · rw [h2]
    exact ⟨fun _ => h1, fun _ => ⟨acc, rfl⟩⟩

theorem rawDemand_nonneg (bids : List Bid) (hamt : ∀ b ∈ bids, 0 < b.amt) (u : Acc) (p : Dec)
    (hp : 0 ≤ p) : 0 ≤ rawDemand bids u p := by
  unfold rawDemand
  apply isum_map_nonneg
  intro b hb
  exact qtyAt_nonneg b p (Int.le_of_lt (hamt b (List.mem_filter.1 hb).1)) hp

theorem cappedDemand_nonneg (bids : List Bid) (allowed : List Allowed)
    (hamt : ∀ b ∈ bids, 0 < b.amt) (hcaps : ∀ x ∈ allowed, 0 < x.cap) (u : Acc) (p : Dec)
    (hp : 0 ≤ p) :
    0 ≤ cappedDemand bids allowed u p := by
  have h1 := rawDemand_nonneg bids hamt u p hp
  have h2 := capOf_nonneg allowed hcaps u
  unfold cappedDemand; omega

theorem reservedOf_nonneg (bids : List Bid) (pd : Denom) (hamt : ∀ b ∈ bids, 0 < b.amt)
    (hprice : ∀ b ∈ bids, 0 < b.price) (u : Acc) : 0 ≤ reservedOf bids pd u := by
  rw [reservedOf_eq_bsum]
  exact bsum_nonneg _ _ _ (fun b hb => Int.le_of_lt (b.toPaying_pos pd (hamt b hb) (hprice b hb)))

/-- what a successful sweep at price `p` returns: the sweep invariant at the end, read in the
    terms of Spec/Clearing -/
structure Swept (a : Auction) (bids sorted : List Bid) (allowed : List Allowed) (p : Dec)
    (acc : MAcc) : Prop where
  price : acc.price = p
  total : acc.total = demand bids allowed p
  fits : acc.total ≤ a.sellAmt
  alloc : ∀ u, acc.alloc u = cappedDemand bids allowed u p
  payLo : ∀ u, p * acc.alloc u ≤ PREC * acc.pay u
  payZero : ∀ u, acc.alloc u = 0 → acc.pay u = 0
  payHi : ∀ u, 0 < acc.alloc u → PREC * acc.pay u < p * acc.alloc u + PREC * matchedCount acc u
  payRes : ∀ u, acc.pay u ≤ reservedOf bids a.payDenom u
  matched : ∀ b ∈ acc.matched, b ∈ bids ∧ p ≤ b.price
  sublist : acc.matched.Sublist sorted

theorem matchAt_swept (a : Auction) (bids sorted : List Bid) (allowed : List Allowed) (p : Dec)
    (acc : MAcc) (hw : BookWF a bids allowed) (hs : Arrangement bids sorted) (hp : 0 < p)
    (h : matchAt p sorted a.sellAmt allowed = .fit acc) : Swept a bids sorted allowed p acc := by
  have hperm := hs.1
  rcases matchAt_spec a bids sorted allowed p hw hs hp with ⟨_, h2⟩ | ⟨h1, acc', h2, hinv⟩
  · rw [h] at h2; cases h2
  · rw [h] at h2
    injection h2 with h2
    subst h2
    have htot : acc.total = demand bids allowed p := by
      rw [hinv.total, totalOf_filter_eq bids sorted allowed hperm p]
    refine ⟨hinv.price, htot, by rw [htot]; exact h1,
      fun u => by rw [hinv.alloc u, allocOf_filter_eq bids sorted allowed hperm p u],
      hinv.payLo, fun u h0 => ?_, fun u h0 => ?_, fun u => ?_, fun b hb => ?_,
      hinv.matched.trans List.filter_sublist⟩
    · rcases hinv.payHi u with ⟨_, e⟩ | ⟨e, _⟩
      · exact e
      · omega
    · rcases hinv.payHi u with ⟨e, _⟩ | ⟨_, e⟩
      · omega
      · exact e
    · -- the bids swept are some of the recorded bids, and no reservation is negative
      rw [reservedOf_eq_bsum]
      have h1 := hinv.payRes u
      have h2 := bsum_filter_le (·.toPaying a.payDenom) sorted (fun b => decide (p ≤ b.price)) u
        (fun b hb => book_toPaying_nonneg a bids allowed hw b (hperm.mem_iff.1 hb))
      have h3 := bsum_perm (·.toPaying a.payDenom) hperm u
      omega
    · have := List.mem_filter.1 (hinv.matched.subset hb)
      exact ⟨hperm.mem_iff.1 this.1, by simpa using this.2⟩

theorem Swept.alloc_nonneg {a bids sorted allowed p acc} (h : Swept a bids sorted allowed p acc)
    (hw : BookWF a bids allowed) (hp : 0 < p) (u : Acc) : 0 ≤ acc.alloc u := by
  rw [h.alloc u]; exact cappedDemand_nonneg bids allowed hw.amts hw.caps u p (Int.le_of_lt hp)

theorem Swept.pay_nonneg {a bids sorted allowed p acc} (h : Swept a bids sorted allowed p acc)
    (hw : BookWF a bids allowed) (hp : 0 < p) (u : Acc) : 0 ≤ acc.pay u := by
  have := Int.le_trans (Int.mul_nonneg (Int.le_of_lt hp) (h.alloc_nonneg hw hp u)) (h.payLo u)
  unfold PREC at this; omega

theorem demand_antitone (a : Auction) (bids : List Bid) (allowed : List Allowed) (p q : Dec)
    (hw : BookWF a bids allowed) (hp : 0 < p) (hpq : p ≤ q) :
    demand bids allowed q ≤ demand bids allowed p := by
  unfold demand
  apply isum_map_le
  intro u _
  have : rawDemand bids u q ≤ rawDemand bids u p := by
    unfold rawDemand
    apply isum_filter_mono
    · intro x _ hx
      simp only [Bool.and_eq_true, decide_eq_true_eq] at hx ⊢
      exact ⟨hx.1, Int.le_trans hpq hx.2⟩
    · intro x hx _
      exact qtyAt_antitone x p q (Int.le_of_lt (hw.amts x hx)) hp hpq
    · intro x hx
      exact qtyAt_nonneg x p (Int.le_of_lt (hw.amts x hx)) (Int.le_of_lt hp)
  unfold cappedDemand
  omega

/-! ### calcBatchWith -/

def noMatchInfo (a : Auction) (bids : List Bid) : MInfo :=
  { matchedLen := 0, price := 0, total := 0
    alloc := (biddersOf bids).map (fun u => (u, 0))
    refund := (biddersOf bids).map (fun u => (u, sumOver bids u (·.toPaying a.payDenom)))
    matchedIds := [] }

def matchInfo (a : Auction) (bids : List Bid) (acc : MAcc) : MInfo :=
  { matchedLen := acc.matched.length
    price := acc.price
    total := acc.total
    alloc := (biddersOf bids).map (fun u => (u, acc.alloc u))
    refund := (biddersOf bids).map (fun u => (u, sumOver bids u (·.toPaying a.payDenom) - acc.pay u))
    matchedIds := acc.matched.map (·.id) }

theorem calcBatchWith_cases (a : Auction) (bids sorted : List Bid) (allowed : List Allowed)
    (hw : BookWF a bids allowed) (hs : Arrangement bids sorted) :
    (NoPriceFits bids allowed a.sellAmt ∧
      calcBatchWith sorted a bids allowed = some (noMatchInfo a bids)) ∨
    (∃ p acc, IsClearingPrice bids allowed a.sellAmt p ∧ 0 < p ∧
      matchAt p sorted a.sellAmt allowed = .fit acc ∧
      calcBatchWith sorted a bids allowed = some (matchInfo a bids acc)) := by
  -- the prices searched are the recorded prices; all are positive
  have hmem : ∀ p, p ∈ distinctPrices sorted ↔ ∃ b ∈ bids, b.price = p := fun p => by
    simp only [mem_distinctPrices, hs.1.mem_iff]
  have hrec : ∀ b ∈ bids, b.price ∈ distinctPrices sorted := fun b hb => (hmem _).2 ⟨b, hb, rfl⟩
  have hpos : ∀ p ∈ distinctPrices sorted, 0 < p := fun p hp => by
    obtain ⟨b, hb, rfl⟩ := (hmem p).1 hp
    exact hw.prices b hb
  have hfit := fun p hp => matchAt_fits_iff a bids sorted allowed p hw hs (hpos p hp)
  -- antitone demand makes "fits" monotone in the price, which is what the binary search needs
  rcases searchLoop_desc (distinctPrices sorted) (distinctPrices_desc sorted hs.2)
      (fun p => matchAt p sorted a.sellAmt allowed)
      (fun p _ => matchAt_ne_panic a bids sorted allowed p hw hs)
      (fun p hp q hq hpq hf => by
        rw [hfit p hp] at hf
        rw [hfit q hq]
        exact Int.le_trans (demand_antitone a bids allowed p q hw (hpos p hp) hpq) hf) with
    ⟨hall, hres⟩ | ⟨p, hp, acc, hf, hlow, hres⟩
  · refine Or.inl ⟨fun b hb hd => ?_, by unfold calcBatchWith noMatchInfo; simp only [hres]⟩
    obtain ⟨acc, e⟩ := (hfit _ (hrec b hb)).2 hd
    rw [hall _ (hrec b hb)] at e
    cases e
  · refine Or.inr ⟨p, acc, ⟨(hmem p).1 hp, (hfit p hp).1 ⟨acc, hf⟩, fun b hb hd => ?_⟩, hpos p hp, hf,
      by unfold calcBatchWith matchInfo; simp only [hres]⟩
    obtain ⟨acc', e⟩ := (hfit _ (hrec b hb)).2 hd
    refine Int.not_lt.1 (fun hlt => ?_)
    rw [hlow _ (hrec b hb) hlt] at e
    cases e

theorem lookupAmt_noMatch_alloc (a : Auction) {bids : List Bid} {u : Acc} (hu : u ∈ biddersOf bids) :
    lookupAmt (noMatchInfo a bids).alloc u = 0 := lookupAmt_map (fun _ => 0) u _ hu

theorem lookupAmt_noMatch_refund (a : Auction) {bids : List Bid} {u : Acc} (hu : u ∈ biddersOf bids) :
    lookupAmt (noMatchInfo a bids).refund u = reservedOf bids a.payDenom u :=
  lookupAmt_map (fun u => sumOver bids u (·.toPaying a.payDenom)) u _ hu

theorem lookupAmt_match_alloc (a : Auction) {bids : List Bid} (acc : MAcc) {u : Acc}
    (hu : u ∈ biddersOf bids) : lookupAmt (matchInfo a bids acc).alloc u = acc.alloc u :=
  lookupAmt_map (fun u => acc.alloc u) u _ hu

theorem lookupAmt_match_refund (a : Auction) {bids : List Bid} (acc : MAcc) {u : Acc}
    (hu : u ∈ biddersOf bids) :
    lookupAmt (matchInfo a bids acc).refund u = reservedOf bids a.payDenom u - acc.pay u :=
  lookupAmt_map (fun u => sumOver bids u (·.toPaying a.payDenom) - acc.pay u) u _ hu

/-- every matched bid of `u` is one of `u`'s recorded bids whose id is in the matched ids -/
theorem matched_count_le (bids sorted matched : List Bid) (hperm : sorted.Perm bids)
    (hsub : matched.Sublist sorted) (u : Acc) :
    (matched.filter (·.bidder == u)).length ≤
      (bids.filter (fun b => b.bidder == u && (matched.map (·.id)).contains b.id)).length := by
  have h1 : matched.filter (·.bidder == u) =
      matched.filter (fun b => b.bidder == u && (matched.map (·.id)).contains b.id) := by
    apply List.filter_congr
    intro b hb
    have : (matched.map (·.id)).contains b.id = true := by
      simp only [List.contains_iff_mem, List.mem_map]
      exact ⟨b, hb, rfl⟩
    rw [this, Bool.and_true]
  rw [h1]
  exact Nat.le_trans (hsub.filter _).length_le (Nat.le_of_eq (hperm.filter _).length_eq)

/-- `Swept` (without `sublist`) written out as one conjunction -/
theorem matchAt_result (a : Auction) (bids sorted : List Bid) (allowed : List Allowed) (p : Dec)
    (acc : MAcc) (hw : BookWF a bids allowed) (hs : Arrangement bids sorted) (hp : 0 < p)
    (h : matchAt p sorted a.sellAmt allowed = .fit acc) :
    acc.price = p ∧ acc.total = demand bids allowed p ∧ acc.total ≤ a.sellAmt ∧
    (∀ u, acc.alloc u = cappedDemand bids allowed u p) ∧
    -- uniform price within rounding: p·alloc ≤ 10^18·pay < p·alloc + 10^18·(#matched bids of u)
    (∀ u, p * acc.alloc u ≤ PREC * acc.pay u) ∧
    (∀ u, acc.alloc u = 0 → acc.pay u = 0) ∧
    (∀ u, 0 < acc.alloc u → PREC * acc.pay u < p * acc.alloc u + PREC * matchedCount acc u) ∧
    (∀ u, acc.pay u ≤ reservedOf bids a.payDenom u) ∧
    (∀ b ∈ acc.matched, b ∈ bids ∧ p ≤ b.price) := by
  have hsw := matchAt_swept a bids sorted allowed p acc hw hs hp h
  exact ⟨hsw.price, hsw.total, hsw.fits, hsw.alloc, hsw.payLo, hsw.payZero, hsw.payHi, hsw.payRes,
    hsw.matched⟩

/-- the bounds C04 and C05 need from a batch settlement, for every bidder with a bid -/
theorem calcBatchWith_bounds (a : Auction) (bids sorted : List Bid) (allowed : List Allowed) (mi : MInfo)
    (hw : BookWF a bids allowed) (hs : Arrangement bids sorted)
    (h : calcBatchWith sorted a bids allowed = some mi) :
    0 ≤ mi.total ∧ mi.total ≤ a.sellAmt ∧
    mi.total = ((biddersOf bids).map (lookupAmt mi.alloc)).sum ∧
    mi.matchedLen = mi.matchedIds.length ∧
    (∀ id ∈ mi.matchedIds, ∃ b ∈ bids, b.id = id ∧ mi.price ≤ b.price) ∧
    ∀ u ∈ biddersOf bids,
      let alloc := lookupAmt mi.alloc u
      let refund := lookupAmt mi.refund u
      let pay := reservedOf bids a.payDenom u - refund
      let k : Int := ((bids.filter (fun b => b.bidder == u && mi.matchedIds.contains b.id)).length : Int)
      0 ≤ alloc ∧ alloc ≤ capOf allowed u ∧ alloc ≤ rawDemand bids u mi.price ∧
      0 ≤ refund ∧ pay ≤ reservedOf bids a.payDenom u ∧
      mi.price * alloc ≤ PREC * pay ∧
      (alloc = 0 → refund = reservedOf bids a.payDenom u) ∧
      (0 < alloc → PREC * pay < mi.price * alloc + PREC * k) := by
  have hc := calcBatchWith_cases a bids sorted allowed hw hs
  rw [h] at hc
  rcases hc with ⟨hno, hc⟩ | ⟨p0, acc, hcl, hp0, hm, hc⟩ <;> cases hc
  · refine ⟨Int.le_refl 0, Int.le_of_lt hw.supply, ?_, rfl, (fun id hid => by cases hid), fun u hu => ?_⟩
    · show (0 : Int) = _
      rw [List.map_congr_left (fun u hu => lookupAmt_noMatch_alloc a hu), isum_map_zero]
    · have h1 := capOf_nonneg allowed hw.caps u
      have h2 := rawDemand_nonneg bids hw.amts u 0 (Int.le_refl 0)
      have h3 := reservedOf_nonneg bids a.payDenom hw.amts hw.prices u
      simp only [lookupAmt_noMatch_alloc a hu, lookupAmt_noMatch_refund a hu]
      exact ⟨Int.le_refl 0, h1, h2, h3, by omega, by simp [noMatchInfo], fun _ => trivial,
        fun h => by omega⟩
  · have hsw := matchAt_swept a bids sorted allowed p0 acc hw hs hp0 hm
    refine ⟨?_, hsw.fits, ?_, ?_, ?_, fun u hu => ?_⟩
    · show 0 ≤ acc.total
      rw [hsw.total]
      exact isum_map_nonneg fun u _ => cappedDemand_nonneg bids allowed hw.amts hw.caps u p0 (Int.le_of_lt hp0)
    · show acc.total = _
      rw [hsw.total]
      exact congrArg List.sum
        (List.map_congr_left fun u hu => by rw [lookupAmt_match_alloc a acc hu, hsw.alloc u])
    · show ((acc.matched.length : Nat) : Int) = (((acc.matched.map (·.id)).length : Nat) : Int)
      rw [List.length_map]
    · intro id hid
      obtain ⟨b, hb, e⟩ := List.mem_map.1 hid
      exact ⟨b, (hsw.matched b hb).1, e,
        by show acc.price ≤ b.price; rw [hsw.price]; exact (hsw.matched b hb).2⟩
    · have hprice : (matchInfo a bids acc).price = p0 := hsw.price
      have hids : (matchInfo a bids acc).matchedIds = acc.matched.map (·.id) := rfl
      have hcd := hsw.alloc u
      have hres := hsw.payRes u
      simp only [lookupAmt_match_alloc a acc hu, lookupAmt_match_refund a acc hu, hprice, hids,
        Int.sub_sub_self]
      unfold cappedDemand at hcd
      refine ⟨hsw.alloc_nonneg hw hp0 u, by rw [hcd]; exact Int.min_le_right _ _, by rw [hcd]; exact Int.min_le_left _ _,
        Int.sub_nonneg.2 hres, hres, hsw.payLo u, fun hz0 => ?_, fun hpos => ?_⟩
      · rw [hsw.payZero u hz0, Int.sub_zero]
      · -- every matched bid of `u` is a recorded bid of `u` whose id is among the matched ids
        have hk := matched_count_le bids sorted acc.matched hs.1 hsw.sublist u
        exact Int.lt_of_lt_of_le (hsw.payHi u hpos)
          (Int.add_le_add_left (Int.mul_le_mul_of_nonneg_left (Int.ofNat_le.2 hk) (by decide)) _)

end Fundraising
