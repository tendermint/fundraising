import Fundraising.Proofs.WFProofs
/-
  C01 — escrow accounts hold what the records owe.  The slack of the three escrows of an
  auction and what it means for one operation to keep it (`Keeps`, `Local`, `Good`); the
  message handlers, settlement, release and one iteration of `BeginBlocker` keep it (read off
  Proofs/OpsMsgs.lean and Proofs/OpsBlock.lean).  Coverage and exactness are both carried over
  by `Keeps`, so one walk through the operations (`step_keeps`) serves `AllCovered` and
  `AllExact`; they part only at third-party transfers.  The module's own invariants
  (Model/ModuleInv.lean = keeper/invariants.go) follow from coverage.
-/
namespace Fundraising.EscrowInv

/-! ### escrow addresses -/

/-- the auction an escrow address belongs to.  It has the body of `Frame.esc` (`escIdx_eq`); `Local`,
    `Good` and the statements on the side of `AllExact` are written with it -/
def escIdx : Addr → Option Nat
  | .sell a => some a
  | .pay a => some a
  | .vest a => some a
  | _ => none

theorem esc_ne_sell {x : Addr} {i j : Nat} (hx : escIdx x = some j) (hj : j ≠ i) : x ≠ .sell i := by
  intro e; subst e; simp [escIdx] at hx; exact hj hx.symm
theorem esc_ne_pay {x : Addr} {i j : Nat} (hx : escIdx x = some j) (hj : j ≠ i) : x ≠ .pay i := by
  intro e; subst e; simp [escIdx] at hx; exact hj hx.symm
theorem esc_ne_vest {x : Addr} {i j : Nat} (hx : escIdx x = some j) (hj : j ≠ i) : x ≠ .vest i := by
  intro e; subst e; simp [escIdx] at hx; exact hj hx.symm
theorem esc_ne_user {x : Addr} {j : Nat} {u : Acc} (hx : escIdx x = some j) : x ≠ .user u := by
  intro e; subst e; simp [escIdx] at hx
theorem esc_ne_pool {x : Addr} {j : Nat} (hx : escIdx x = some j) : x ≠ .pool := by
  intro e; subst e; simp [escIdx] at hx

theorem esc_ne_gift {src : Acc} {dst : Addr} {d : Denom} {amt : Int}
    (h : (Op.gift src dst d amt).noEscrowGift = true) {x : Addr} {j : Nat} (hx : escIdx x = some j) :
    x ≠ dst := by
  intro e; subst e
  cases x <;> simp [escIdx] at hx <;> simp [Op.noEscrowGift] at h

theorem escIdx_eq : escIdx = Frame.esc := by
  funext x; cases x <;> rfl

/-! ### slack of the three escrows -/

def slackSell (s : Core) (i : Nat) (v : AView) (d : Denom) : Int :=
  s.bank (.sell i) d - (if d = v.a.sellDenom then owedSell v else 0)

def slackPay (s : Core) (i : Nat) (v : AView) (d : Denom) : Int :=
  s.bank (.pay i) d - (if d = v.a.payDenom then owedPay v else 0)

def slackVest (s : Core) (i : Nat) (v : AView) (d : Denom) : Int :=
  s.bank (.vest i) d - (if d = v.a.payDenom then owedVest v else 0)

theorem escrowCovered_iff (s : Core) (i : Nat) (v : AView) :
    EscrowCovered s i v ↔
      0 ≤ slackSell s i v v.a.sellDenom ∧ 0 ≤ slackPay s i v v.a.payDenom ∧
      0 ≤ slackVest s i v v.a.payDenom := by
  simp only [slackSell, slackPay, slackVest, if_true, Int.sub_nonneg]
  exact ⟨fun ⟨a, b, c⟩ => ⟨a, b, c⟩, fun ⟨a, b, c⟩ => ⟨a, b, c⟩⟩

theorem escrowExact_iff (s : Core) (i : Nat) (v : AView) :
    EscrowExact s i v ↔
      ∀ d, slackSell s i v d = 0 ∧ slackPay s i v d = 0 ∧ slackVest s i v d = 0 := by
  simp only [slackSell, slackPay, slackVest, Int.sub_eq_zero]
  exact ⟨fun ⟨a, b, c⟩ d => ⟨a d, b d, c d⟩,
    fun h => ⟨fun d => (h d).1, fun d => (h d).2.1, fun d => (h d).2.2⟩⟩

/-- the accounting of auction `i` is kept by a transition: denominations stay, and each
    escrow's slack either stays or drops to zero (a sweep of the entire balance) -/
structure Keeps (s s' : Core) (i : Nat) (v v' : AView) : Prop where
  sd : v'.a.sellDenom = v.a.sellDenom
  pd : v'.a.payDenom = v.a.payDenom
  sell : ∀ d, slackSell s' i v' d = slackSell s i v d ∨ slackSell s' i v' d = 0
  pay : ∀ d, slackPay s' i v' d = slackPay s i v d ∨ slackPay s' i v' d = 0
  vest : ∀ d, slackVest s' i v' d = slackVest s i v d ∨ slackVest s' i v' d = 0

theorem Keeps.covered {s s' : Core} {i : Nat} {v v' : AView} (k : Keeps s s' i v v')
    (h : EscrowCovered s i v) : EscrowCovered s' i v' := by
  rw [escrowCovered_iff] at h ⊢
  rw [k.sd, k.pd]
  -- a slack that stays or drops to zero stays non-negative
  have keep : ∀ {x y : Int}, 0 ≤ x → y = x ∨ y = 0 → 0 ≤ y := fun hx hy =>
    hy.elim (fun e => e ▸ hx) (fun e => e ▸ Int.le_refl 0)
  exact ⟨keep h.1 (k.sell _), keep h.2.1 (k.pay _), keep h.2.2 (k.vest _)⟩

theorem Keeps.exact {s s' : Core} {i : Nat} {v v' : AView} (k : Keeps s s' i v v')
    (h : EscrowExact s i v) : EscrowExact s' i v' := by
  rw [escrowExact_iff] at h ⊢
  intro d
  obtain ⟨a, b, c⟩ := h d
  exact ⟨(k.sell d).elim (·.trans a) id, (k.pay d).elim (·.trans b) id, (k.vest d).elim (·.trans c) id⟩

theorem Keeps.trans {s s' s'' : Core} {i : Nat} {v v' v'' : AView} (k1 : Keeps s s' i v v')
    (k2 : Keeps s' s'' i v' v'') : Keeps s s'' i v v'' := by
  -- it stays over both steps, or dropped to zero in the first and stayed, or drops in the second
  have both : ∀ {x y z : Int}, y = x ∨ y = 0 → z = y ∨ z = 0 → z = x ∨ z = 0 := fun h1 h2 =>
    h2.elim (fun e => h1.imp e.trans e.trans) .inr
  exact ⟨k2.sd.trans k1.sd, k2.pd.trans k1.pd, fun d => both (k1.sell d) (k2.sell d),
    fun d => both (k1.pay d) (k2.pay d), fun d => both (k1.vest d) (k2.vest d)⟩

/-- The record written: status, denominations, offered amount and vesting queue stay, and the
    paying escrow owes `D` more.  The transfers made: nothing reaches the selling and the vesting
    escrow, and `D` of the paying denomination the paying escrow. -/
theorem keeps_of_reserve {s s' : Core} {i : Nat} {v v' : AView} {xs : List Transfer} {D : Int}
    (hb : ∀ x, escIdx x = some i → ∀ d, s'.bank x d = s.bank x d + netFlow xs x d)
    (hst : v'.a.status = v.a.status) (hsd : v'.a.sellDenom = v.a.sellDenom)
    (hpd : v'.a.payDenom = v.a.payDenom) (hsa : v'.a.sellAmt = v.a.sellAmt)
    (hu : unreleasedTotal v' = unreleasedTotal v) (hD : owedPay v' = owedPay v + D)
    (hsell : ∀ d, netFlow xs (.sell i) d = 0) (hvest : ∀ d, netFlow xs (.vest i) d = 0)
    (hpay : ∀ d, netFlow xs (.pay i) d = if d = v.a.payDenom then D else 0) :
    Keeps s s' i v v' := by
  refine ⟨hsd, hpd, fun d => .inl ?_, fun d => .inl ?_, fun d => .inl ?_⟩
  · simp only [slackSell, owedSell, hb (.sell i) rfl, hsell, Int.add_zero, hst, hsd, hsa]
  · simp only [slackPay, hb (.pay i) rfl, hpay, hpd, hD]
    split <;> omega
  · simp only [slackVest, owedVest, hb (.vest i) rfl, hvest, Int.add_zero, hst, hpd, hu]

theorem keeps_of_eq {s s' : Core} {i : Nat} {v v' : AView}
    (hbank : ∀ x, escIdx x = some i → ∀ d, s'.bank x d = s.bank x d)
    (hst : v'.a.status = v.a.status) (hsd : v'.a.sellDenom = v.a.sellDenom)
    (hpd : v'.a.payDenom = v.a.payDenom) (hsa : v'.a.sellAmt = v.a.sellAmt)
    (hr : reservedTotal v' = reservedTotal v) (hu : unreleasedTotal v' = unreleasedTotal v) :
    Keeps s s' i v v' :=
  keeps_of_reserve (xs := []) (D := 0) (fun x hx d => (hbank x hx d).trans (Int.add_zero _).symm)
    hst hsd hpd hsa hu (by simp [owedPay, hst, hr]) (fun _ => rfl) (fun _ => rfl) fun _ => (ite_self _).symm

/-! ### an operation on auction `i` -/

/-- the records and the escrows of the other auctions are as they were -/
structure Local (i : Nat) (s s' : Core) : Prop where
  len : s'.views.length = s.views.length
  views : ∀ j, j ≠ i → s'.views[j]? = s.views[j]?
  bank : ∀ x j, escIdx x = some j → j ≠ i → ∀ d, s'.bank x d = s.bank x d

theorem Local.refl (i : Nat) (s : Core) : Local i s s := ⟨rfl, fun _ _ => rfl, fun _ _ _ _ _ => rfl⟩

/-- A successful operation on auction `i`: its record `v` is there, and if `v` is well formed
    the operation is local to `i` and keeps its accounting.  `ViewWF i v` is read by the
    modification (distinct bid ids, the reservation in the paying denomination), the opening (no
    bids before it), settlement (the stored id, an empty queue) and release (the queue in release
    order and in the paying denomination); cancellation, placement and the allow-list calls do
    without it. -/
def Good (i : Nat) (s s' : Core) : Prop :=
  ∃ v, s.views[i]? = some v ∧
    (ViewWF i v → Local i s s' ∧ ∃ v', s'.views[i]? = some v' ∧ Keeps s s' i v v')

/-- the usual shape of a handler's result: view `i` replaced, bank changed away from the
    escrows of other auctions -/
theorem local_of_set {s s' : Core} {i : Nat} {v v' : AView} (hv : s.views[i]? = some v)
    (hviews : s'.views = s.views.set i v')
    (hbank : ∀ x j, escIdx x = some j → j ≠ i → ∀ d, s'.bank x d = s.bank x d) :
    Local i s s' ∧ s'.views[i]? = some v' := by
  refine ⟨⟨?_, ?_, hbank⟩, ?_⟩
  · rw [hviews, List.length_set]
  · intro j hj
    rw [hviews, List.getElem?_set_ne (Ne.symm hj)]
  · rw [hviews, List.getElem?_set_self (lt_of_getElem? hv)]

theorem good_of_set {s s' : Core} {i : Nat} {v v' : AView} (hv : s.views[i]? = some v)
    (hviews : s'.views = s.views.set i v')
    (hbank : ∀ x j, escIdx x = some j → j ≠ i → ∀ d, s'.bank x d = s.bank x d)
    (hk : ViewWF i v → Keeps s s' i v v') : Good i s s' :=
  have ⟨l, hv'⟩ := local_of_set hv hviews hbank
  ⟨v, hv, fun w => ⟨l, v', hv', hk w⟩⟩

/-- a handler that works on auction `i` and moves coins only between users, the pool and the
    escrows of `i` -/
theorem good_wrote {c : Ctx} {xs : List Transfer} {b : Bank} {name : String} {args : List String} {i : Nat}
    {v v' : AView} (hv : c.s.views[i]? = some v) (hp : Pays c xs b)
    (hl : ∀ t ∈ xs, Frame.Loc i t.src ∧ Frame.Loc i t.dst)
    (hk : ViewWF i v → Keeps c.s (c.wrote xs b name args i v').s i v v') :
    Good i c.s (c.wrote xs b name args i v').s :=
  good_of_set hv rfl (escIdx_eq ▸ Frame.sendAll_other hl hp.funds) hk

theorem good_of_same {s s' : Core} {i : Nat} {v : AView} (hv : s.views[i]? = some v)
    (hviews : s'.views = s.views) (hbank : s'.bank = s.bank) : Good i s s' := by
  refine ⟨v, hv, fun _ => ⟨⟨by rw [hviews], fun j _ => by rw [hviews], fun x j _ _ d => by rw [hbank]⟩,
    v, by rw [hviews]; exact hv,
    keeps_of_eq (fun x _ d => by rw [hbank]) rfl rfl rfl rfl rfl rfl⟩⟩

/-! ### all auctions

`EscrowCovered` and `EscrowExact` are carried over by every kept accounting (`Keeps.covered`,
`Keeps.exact`); that is all the lemmas below need of them. -/

def All (P : Core → Nat → AView → Prop) (s : Core) : Prop := ∀ i v, s.views[i]? = some v → P s i v

section
variable {P : Core → Nat → AView → Prop}
  (hP : ∀ {s s' : Core} {i : Nat} {v v' : AView}, Keeps s s' i v v' → P s i v → P s' i v')
include hP

/-- `P` looks at the core only through the escrow balances of the auction -/
theorem frame_of_keeps {s s' : Core} {j : Nat} {v : AView}
    (hb : ∀ x, escIdx x = some j → ∀ d, s'.bank x d = s.bank x d) (h : P s j v) : P s' j v :=
  hP (keeps_of_eq hb rfl rfl rfl rfl rfl rfl) h

theorem Good.all {i : Nat} {s s' : Core} (g : Good i s s')
    (hwf : ∀ v, s.views[i]? = some v → ViewWF i v) (h : All P s) : All P s' := by
  obtain ⟨v, hv, hk⟩ := g
  obtain ⟨l, v', hv', k⟩ := hk (hwf v hv)
  intro j w hj
  by_cases hji : j = i
  · subst hji
    rw [hv'] at hj
    cases hj
    exact hP k (h j v hv)
  · rw [l.views j hji] at hj
    exact frame_of_keeps hP (fun x hx d => l.bank x j hx hji d) (h j w hj)

theorem all_of_same {s s' : Core} (hv : s'.views = s.views)
    (hb : ∀ x j, escIdx x = some j → ∀ d, s'.bank x d = s.bank x d) (h : All P s) : All P s' := by
  intro j w hj
  rw [hv] at hj
  exact frame_of_keeps hP (fun x hx d => hb x j hx d) (h j w hj)

theorem all_append {s s' : Core} {v : AView} (hviews : s'.views = s.views ++ [v])
    (hbank : ∀ x j, escIdx x = some j → j ≠ s.views.length → ∀ d, s'.bank x d = s.bank x d)
    (hnew : P s' s.views.length v) (h : All P s) : All P s' := by
  intro j w hj
  rw [hviews] at hj
  rcases Nat.lt_trichotomy j s.views.length with hlt | heq | hgt
  · rw [List.getElem?_append_left hlt] at hj
    exact frame_of_keeps hP (fun x hx d => hbank x j hx (by omega) d) (h j w hj)
  · subst heq
    rw [List.getElem?_append_right (Nat.le_refl _)] at hj
    simp at hj
    subst hj
    exact hnew
  · rw [List.getElem?_eq_none (by simp; omega)] at hj
    cases hj

end

/-- what exactness adds: the escrows of the auctions to come stay empty when no auction goes
    and their balances are not touched -/
theorem future_of {s s' : Core} (hl : s.views.length ≤ s'.views.length)
    (hb : ∀ x j, escIdx x = some j → s'.views.length ≤ j → ∀ d, s'.bank x d = s.bank x d)
    (h : FutureEscrowsEmpty s) : FutureEscrowsEmpty s' := by
  intro j hj d
  rw [hb (.sell j) j rfl hj, hb (.pay j) j rfl hj, hb (.vest j) j rfl hj]
  exact h j (Nat.le_trans hl hj) d

/-! ### the message handlers and the keeper calls -/

theorem cancelAuction_good {c c' : Ctx} {signer : Acc} {aid : Nat}
    (h : cancelAuction c signer aid = .ok c') : Good aid c.s c'.s := by
  obtain ⟨v, hv, -, hst, -, -, b, hp, rfl⟩ := cancelAuction_iff.mp h
  refine good_wrote hv hp (cancelXfer_loc c aid v) fun _ => ?_
  -- the selling escrow is emptied of the offered denomination; a cancelled auction owes nothing
  have hb : ∀ x d, b x d = c.s.bank x d + (cancelXfer c aid v).delta x d := fun x d => by
    rw [sendAll_apply hp.funds, netFlow_cons, netFlow_nil, Int.add_zero]
  simp only [cancelXfer, delta_coinsOf] at hb
  refine ⟨rfl, rfl, fun d => ?_, fun d => .inl ?_, fun d => .inl ?_⟩
  · show b (.sell aid) d - _ = _ ∨ b (.sell aid) d - _ = 0
    simp only [hb, owedSell, AView.cancelled, slackSell, hst]
    by_cases hd : d = v.a.sellDenom <;> simp [hd]
    omega
  · show b (.pay aid) d - _ = _
    simp [hb, owedPay, AView.cancelled, slackPay, hst]
  · show b (.vest aid) d - _ = _
    simp [hb, owedVest, AView.cancelled, slackVest, hst]

theorem owedPay_placed {v : AView} (b : Bid) (hst : v.a.status = .started) :
    owedPay (v.placed b) = owedPay v + b.toPaying v.a.payDenom := by
  obtain ⟨r, ha⟩ := v.placed_a b
  have hb : (v.placed b).bids.map (·.toPaying v.a.payDenom) =
      v.bids.map (·.toPaying v.a.payDenom) ++ [b.toPaying v.a.payDenom] := by
    simp only [AView.placed, List.map_append, List.map_cons, List.map_nil]
    split <;> rfl
  simp [owedPay, reservedTotal, ha, hst, hb, List.sum_append]

theorem placeBid_good {c c' : Ctx} {bidder : Acc} {aid : Nat} {t : BidType} {price : Dec} {denom : Denom}
    {amt : Int} (h : placeBid c bidder aid t price denom amt = .ok c') : Good aid c.s c'.s := by
  obtain ⟨v, ab, hv, hst, -, -, -, -, -, b, hp, rfl⟩ := placeBid_iff.mp h
  refine good_wrote hv hp (placeXfers_loc c aid v _) fun _ => ?_
  obtain ⟨r, ha⟩ := v.placed_a (v.newBid aid bidder t price denom amt)
  refine keeps_of_reserve (fun x _ => sendAll_apply hp.funds x)
    (by rw [ha]) (by rw [ha]) (by rw [ha]) (by rw [ha]) rfl (owedPay_placed _ hst)
    (netFlow_untouched (by simp [placeXfers])) (netFlow_untouched (by simp [placeXfers])) fun d => ?_
  simp [placeXfers, netFlow_cons, netFlow_nil, delta_coinsOf, delta_untouched]

theorem owedPay_modified {aid : Nat} {v : AView} {bid : Bid} (b' : Bid) (w : ViewWF aid v)
    (hmem : bid ∈ v.bids) :
    owedPay (v.modified bid.id b') =
      owedPay v + (if v.a.status = .started then b'.toPaying v.a.payDenom - bid.toPaying v.a.payDenom else 0) := by
  -- ids are distinct, so exactly one summand changes
  have hnd : v.bids.Nodup :=
    List.Pairwise.of_map (·.id) (fun _ _ h e => h (congrArg _ e)) (w.bidIds ▸ nodup_range_succ _)
  have := isum_map_update (·.toPaying v.a.payDenom)
    (fun x => (if x.id == bid.id then b' else x).toPaying v.a.payDenom) bid
    (b'.toPaying v.a.payDenom - bid.toPaying v.a.payDenom) v.bids hnd hmem (by simp; omega)
    (fun y hy hne => (WFInv.modified_at w.bidIds hmem rfl b' hy).elim (fun h => absurd h.1 hne)
      fun h => congrArg (·.toPaying v.a.payDenom) h.2)
  simp only [owedPay, reservedTotal, AView.modified, List.map_map, Function.comp_def, this]
  split <;> omega

theorem modifyBid_good {c c' : Ctx} {bidder : Acc} {aid bidId : Nat} {price : Dec} {denom : Denom}
    {amt : Int} (h : modifyBid c bidder aid bidId price denom amt = .ok c') : Good aid c.s c'.s := by
  obtain ⟨v, bid, hv, hst, hty, hfind, -, -, hden, hge, -, hpanic, -, b, hp, rfl⟩ := modifyBid_iff.mp h
  refine good_wrote hv hp (modifyXfers_loc aid bidder _) fun w => ?_
  have hmem := List.mem_of_find?_eq_some hfind
  obtain rfl : bid.id = bidId := by simpa using List.find?_some hfind
  obtain ⟨hD, hD0⟩ := modifyDiff_wf (w.bids bid hmem) hty w.auction.denomNe hden hge.2 hpanic
  refine keeps_of_reserve (fun x _ => sendAll_apply hp.funds x) rfl rfl rfl rfl rfl
    (by rw [owedPay_modified _ w hmem, if_pos hst])
    (netFlow_untouched (by unfold modifyXfers; split <;> simp))
    (netFlow_untouched (by unfold modifyXfers; split <;> simp)) fun d => ?_
  -- no bank call when the reservation does not grow
  rw [hD] at hD0 ⊢
  unfold modifyXfers
  split <;> simp [netFlow_cons, netFlow_nil, delta_single]
  intro; omega

theorem addAllowedBidders_good {c c' : Ctx} {aid : Nat} {abs : List AllowedArg}
    (h : addAllowedBidders c aid abs = .ok c') : Good aid c.s c'.s := by
  obtain ⟨-, v, hv, -, -, rfl⟩ := addAllowedBidders_iff.mp h
  exact good_of_set hv rfl (fun _ _ _ _ _ => rfl) fun _ => keeps_of_eq (fun _ _ _ => rfl) rfl rfl rfl rfl rfl rfl

theorem updateAllowedBidder_good {c c' : Ctx} {aid : Nat} {bidder : Acc} {cap : Int}
    (h : updateAllowedBidder c aid bidder cap = .ok c') : Good aid c.s c'.s := by
  obtain ⟨v, hv, -, -, -, rfl⟩ := updateAllowedBidder_iff.mp h
  exact good_of_set hv rfl (fun _ _ _ _ _ => rfl) fun _ => keeps_of_eq (fun _ _ _ => rfl) rfl rfl rfl rfl rfl rfl

/-- creation appends one record and leaves the escrows of the others alone; the slack of the
    new auction is what its escrow addresses happened to hold -/
theorem createAuction_slack {c c' : Ctx} {m : CreateMsg} (h : createAuction c m = .ok c') :
    ∃ (b' : Bank) (v : AView), c'.s = { c.s with bank := b', views := c.s.views ++ [v] } ∧
      (∀ x j, escIdx x = some j → j ≠ c.s.views.length → ∀ d, b' x d = c.s.bank x d) ∧
      ∀ d, slackSell c'.s c.s.views.length v d = c.s.bank (.sell c.s.views.length) d ∧
        slackPay c'.s c.s.views.length v d = c.s.bank (.pay c.s.views.length) d ∧
        slackVest c'.s c.s.views.length v d = c.s.bank (.vest c.s.views.length) d := by
  obtain ⟨-, -, -, -, -, -, b, hp, rfl⟩ := createAuction_iff.mp h
  have hb := sendAll_apply hp.funds
  refine ⟨b, _, rfl, escIdx_eq ▸ Frame.sendAll_other (createXfers_loc c m) hp.funds,
    fun d => ⟨?_, ?_, ?_⟩⟩
  · show b _ d - _ = _
    by_cases hnow : m.startTime ≤ c.s.now <;> by_cases hd : d = m.sellDenom <;>
      simp [hb, owedSell, CreateMsg.view, createXfers, netFlow_cons, netFlow_nil, delta_coinsOf, delta_untouched,
        hnow, hd]
  · show b _ d - _ = _
    simp [hb, owedPay, reservedTotal, CreateMsg.view, createXfers, netFlow_cons, netFlow_nil, delta_untouched]
  · show b _ d - _ = _
    by_cases hnow : m.startTime ≤ c.s.now <;>
      simp [hb, owedVest, CreateMsg.view, createXfers, netFlow_cons, netFlow_nil, delta_untouched, hnow]

/-! ### settlement -/

/-- a settlement sweeps the selling and the paying escrow and funds the vesting escrow with
    exactly the instalments it records -/
theorem keeps_of_settlement {c c' : Ctx} {aid : Nat} {v w : AView} {mp : Dec}
    {mi : MInfo} {S R : Int} (st : Settlement c c' aid v mp mi S R w)
    {v₀ : AView} (hv : c.s.views[aid]? = some v₀) (hid : v.a.id = aid) (hw : AuctionWF v.a)
    (hq : v.vqs = []) (hst : v.a.status = .started) :
    Local aid c.s c'.s ∧ ∃ v', c'.s.views[aid]? = some v' ∧ Keeps c.s c'.s aid v v' := by
  obtain ⟨l, hv'⟩ := local_of_set hv st.views (fun x j hx hj d =>
    st.bank_other hid (esc_ne_sell hx hj) (esc_ne_pay hx hj) (esc_ne_vest hx hj)
      (fun u => esc_ne_user hx) d)
  have ha := st.view.status_only
  have hsd : w.a.sellDenom = v.a.sellDenom := by rw [ha]; rfl
  have hpd : w.a.payDenom = v.a.payDenom := by rw [ha]; rfl
  have hne : w.a.status ≠ .standby ∧ w.a.status ≠ .started := by
    rcases st.view.status_or with h | h <;> rw [h] <;> simp
  have hov : owedVest w = if v.a.schedules = [] then 0 else R :=
    st.view.owedVest hq st.proceedsNonneg hw.sched
  refine ⟨l, w, hv', hsd, hpd, fun d => ?_, fun d => ?_, fun d => ?_⟩
  · simp only [slackSell, owedSell, hne.1, hne.2, or_self, if_false, hst, st.bank_sell hid]
    by_cases hd : d = v.a.sellDenom
    · right; simp [hd]
    · left; simp [hd]
  · simp only [slackPay, owedPay, hne.2, if_false, hst, st.bank_pay hid]
    by_cases hd : d = v.a.payDenom
    · right; simp [hd]
    · left; simp [hd]
  · left
    have hov0 : owedVest v = 0 := by simp [owedVest, hst]
    simp only [slackVest, st.bank_vest, hov, hov0, hpd]
    by_cases hd : d = v.a.payDenom <;> by_cases he : v.a.schedules = [] <;> simp [hd, he]

theorem reservedTotal_flags (v v' : AView) (g : Bid → Bool) (hp : v'.a.payDenom = v.a.payDenom)
    (hb : v'.bids = v.bids.map (fun b => { b with matched := g b })) :
    reservedTotal v' = reservedTotal v := by
  unfold reservedTotal
  rw [hb, hp, List.map_map]
  rfl

theorem keeps_of_closeBatch {c c' : Ctx} {aid : Nat} {v : AView} (h : closeBatch c aid = .ok c')
    (hv : c.s.views[aid]? = some v) (hid : v.a.id = aid) (hw : AuctionWF v.a) (hq : v.vqs = [])
    (hst : v.a.status = .started) :
    Local aid c.s c'.s ∧ ∃ v', c'.s.views[aid]? = some v' ∧ Keeps c.s c'.s aid v v' := by
  obtain ⟨mi, _, hext, hset⟩ := closeBatch_ok h hv
  -- marking the matched bids changes nothing that is owed
  have hr : reservedTotal (markBids v mi) = reservedTotal v :=
    reservedTotal_flags v _ (fun b => mi.matchedIds.contains b.id) rfl rfl
  by_cases hd : extDecision v mi
  · rw [hext hd]
    obtain ⟨l, hv'⟩ := local_of_set hv (setView_views _ _ _) (fun x j _ _ d => by rw [setView_bank])
    exact ⟨l, _, hv', keeps_of_eq (fun x _ d => by rw [setView_bank]) rfl rfl rfl rfl hr rfl⟩
  · obtain ⟨S, R, w, st⟩ := hset hd
    obtain ⟨l, w', hw', k⟩ := keeps_of_settlement st hv hid hw hq hst
    have k₀ : Keeps c.s c.s aid v (markBids v mi) :=
      keeps_of_eq (fun _ _ _ => rfl) rfl rfl rfl rfl hr rfl
    exact ⟨l, w', hw', k₀.trans k⟩

/-! ### release of instalments -/

theorem unrel_split (now : Int) : ∀ l : List VQ,
    ((l.filter (fun q => !q.released)).map (·.amt)).sum =
      ((l.filter (due now)).map (·.amt)).sum +
      (((l.map (rel now)).filter (fun q => !q.released)).map (·.amt)).sum := by
  intro l
  induction l with
  | nil => rfl
  | cons q qs ih =>
    by_cases hd : due now q = true
    · have hr : q.released = false := by
        have := (due_iff.mp hd).2; simpa using this
      have hrel := rel_due hd
      simp only [List.filter_cons, List.map_cons, hd, hr, hrel, Bool.not_false, Bool.not_true, if_true,
        List.sum_cons, ih]
      simp
      omega
    · have hrel := rel_not_due hd
      simp only [List.filter_cons, List.map_cons, hd, hrel]
      by_cases hr : q.released = true
      · simp [hr]; exact ih
      · simp [hr]; omega

/-- what the vesting escrow owes drops by the instalments paid; when the last one of a queue in
    release order is among them the auction is finished, and indeed none is left unpaid -/
theorem owedVest_released {v : AView} (now : Int) (hs : (v.vqs.map (·.release)).Pairwise (· < ·))
    (hst : v.a.status = .vesting) :
    owedVest (v.released now) = owedVest v - ((v.vqs.filter (due now)).map (·.amt)).sum := by
  have hsplit := unrel_split now v.vqs
  simp only [owedVest, AView.released, unreleasedTotal, hst, if_true]
  cases hl : v.vqs.getLast? with
  | none => simp; omega
  | some q =>
    by_cases hdue : due now q = true
    · have hnil : (v.vqs.map (rel now)).filter (fun q : VQ => !q.released) = [] := by
        rw [List.filter_eq_nil_iff]
        intro y hy
        simp [all_released hs hl hdue y hy]
      rw [hnil] at hsplit
      simp [hdue] at hsplit ⊢
      omega
    · simp [hdue]; omega

theorem keeps_of_releaseVesting {c c' : Ctx} {aid : Nat} {v : AView} (h : releaseVesting c aid = .ok c')
    (hv : c.s.views[aid]? = some v) (w : ViewWF aid v) (hst : v.a.status = .vesting) :
    Local aid c.s c'.s ∧ ∃ v', c'.s.views[aid]? = some v' ∧ Keeps c.s c'.s aid v v' := by
  have hsorted := vqs_sorted aid v w
  obtain ⟨_, o, r, hviews⟩ := releaseVesting_ok h hv
  -- the bank: only the vesting escrow of `aid` is debited, by the due instalments
  have hoth : ∀ x, x ≠ .vest aid → (∀ u, x ≠ .user u) → ∀ d, c'.s.bank x d = c.s.bank x d := by
    intro x h1 h2 d
    rw [r.apply, xfersOf_map_xfer, netFlow_untouched, Int.add_zero]
    intro t ht
    obtain ⟨e1, e2⟩ := relXfers_ends t ht
    rw [e1, e2]
    exact ⟨Ne.symm h1, Ne.symm (h2 _)⟩
  have hvest : ∀ d, c'.s.bank (.vest aid) d = c.s.bank (.vest aid) d +
      if d = v.a.payDenom then -((v.vqs.filter (due c.s.now)).map (·.amt)).sum else 0 := by
    intro d
    rw [r.apply, xfersOf_map_xfer, netFlow_relXfers v.a.payDenom d v.vqs (fun q hq => (w.vqsWF q hq).2.1)]
  obtain ⟨l, hv'⟩ := local_of_set hv (hviews hsorted) (fun x j hx hj d =>
    hoth x (esc_ne_vest hx hj) (fun u => esc_ne_user hx) d)
  -- the status stays `vesting` unless the last instalment was due
  have hne : (v.released c.s.now).a.status ≠ .standby ∧ (v.released c.s.now).a.status ≠ .started := by
    show (if _ then Status.finished else v.a.status) ≠ _ ∧ (if _ then Status.finished else v.a.status) ≠ _
    rw [hst]; split <;> simp
  refine ⟨l, _, hv', rfl, rfl, fun d => .inl ?_, fun d => .inl ?_, fun d => .inl ?_⟩
  · simp only [slackSell, owedSell, hne.1, hne.2, hst, or_self, if_false, reduceCtorEq]
    rw [hoth _ (by simp) (by simp)]
    simp
  · simp only [slackPay, owedPay, hne.2, hst, if_false, reduceCtorEq]
    rw [hoth _ (by simp) (by simp)]
    simp
  · have hpd : (v.released c.s.now).a.payDenom = v.a.payDenom := rfl
    simp only [slackVest, hpd, hvest, owedVest_released c.s.now hsorted hst]
    split <;> omega

/-! ### `BeginBlocker` and every operation -/

/-- the opening: there are no bids yet, so the paying escrow of the open auction owes nothing -/
theorem keeps_opened {s s' : Core} {i : Nat} {v : AView} (hbank : s'.bank = s.bank)
    (w : ViewWF i v) (hst : v.a.status = .standby) : Keeps s s' i v v.opened := by
  have hb : v.bids = [] := w.noBidsBefore (Or.inl hst)
  refine ⟨rfl, rfl, fun d => .inl ?_, fun d => .inl ?_, fun d => .inl ?_⟩
  · simp [slackSell, owedSell, AView.opened, hbank, hst]
  · simp [slackPay, owedPay, AView.opened, hbank, hst, reservedTotal, hb]
  · simp [slackVest, owedVest, AView.opened, hbank, hst]

theorem blockStep_good {c c' : Ctx} {i : Nat} (h : blockStep c i = .ok c') : Good i c.s c'.s := by
  obtain ⟨v, hv⟩ := blockStep_view h
  rcases (blockStep_iff hv).mp h with ⟨rfl, _⟩ | ⟨hst, _, rfl⟩ | ⟨hst, _, _, ⟨_, hc⟩ | ⟨_, hc⟩⟩ | ⟨hst, hr⟩
  · exact good_of_same hv rfl rfl
  · exact good_of_set hv (setView_views _ _ _) (fun x j _ _ d => by rw [setView_bank])
      fun w => keeps_opened (setView_bank _ _ _) w hst
  · obtain ⟨S, R, v', st⟩ := closeFixed_ok hc hv
    exact ⟨v, hv, fun w => keeps_of_settlement st hv w.id w.auction (w.vqsNone (Or.inr (Or.inl hst))) hst⟩
  · exact ⟨v, hv, fun w => keeps_of_closeBatch hc hv w.id w.auction (w.vqsNone (Or.inr (Or.inl hst))) hst⟩
  · exact ⟨v, hv, fun w => keeps_of_releaseVesting hr hv w hst⟩

theorem beginBlock_keeps (P : Core → Prop)
    (hP : ∀ i s s', Good i s s' → (∀ v, s.views[i]? = some v → ViewWF i v) → P s → P s')
    {c c' : Ctx} {t : Int} (h : beginBlock c t = .ok c') (hwf : WF c.s)
    (hp : P { c.s with now := t }) : P c'.s :=
  blockLoop_induct (Q := fun c c' => WF c.s → P c.s → P c'.s)
    (c := { c with s := { c.s with now := t } }) (fun _ _ hp => hp)
    (fun {_ _ _ i} h₁ q hw hp => q (WFInv.blockStep_wf h₁ hw).1
      (hP i _ _ (blockStep_good h₁) (fun v hv => hw.views i v hv) hp))
    h (hwf.of_eqs rfl rfl rfl) hp

/-- A predicate on the module state that holds of the empty state and is kept by every
    well-formed operation on one auction, by whatever leaves the views and the escrow balances
    alone, and by the creation of an auction, is kept by every operation; what a third-party
    transfer that goes through does to it is for the caller to say. -/
theorem step_keeps (Q : Core → Prop) (hinit : Q {})
    (hgood : ∀ i s s', Good i s s' → (∀ v, s.views[i]? = some v → ViewWF i v) → Q s → Q s')
    (hsame : ∀ s s', s'.views = s.views →
      (∀ x j, escIdx x = some j → ∀ d, s'.bank x d = s.bank x d) → Q s → Q s')
    (st : State) (op : Op) (hwf : WF st.core)
    (hnew : ∀ c' m, createAuction { s := st.core, ctl := st.ctl } m = .ok c' → Q c'.s)
    (hgift : ∀ src dst d amt, op = .gift src dst d amt → 0 < amt →
      Q { st.core with bank := st.core.bank.move (.user src) dst d amt })
    (h : Q st.core) : Q (step st op).2.core := by
  have hview : ∀ i v, st.core.views[i]? = some v → ViewWF i v := hwf.views
  cases op with
  | reset => exact hinit
  | fund u d amt =>
    refine hsame st.core _ rfl (fun x j hx d' => ?_) h
    show st.core.bank x d' + (if x = .user u ∧ d' = d ∧ 0 < amt then amt else 0) = _
    rw [if_neg (fun e => esc_ne_user hx e.1), Int.add_zero]
  | gift src dst d amt =>
    rcases step_gift st src dst d amt with e | ⟨hpos, -, -, e⟩ <;> rw [e]
    · exact h
    · exact hgift src dst d amt rfl hpos
  | msg m =>
    refine runAtomic_keeps Q st true _ (fun c' hc => ?_) h
    exact handle_cases (P := fun _ c' => Q c'.s) (deliver_iff.mp hc).2 (fun m' h' => hnew _ m' h')
      (fun _ aid h' => hgood aid _ _ (cancelAuction_good h') (hview aid) h)
      (fun _ aid _ _ _ _ h' => hgood aid _ _ (placeBid_good h') (hview aid) h)
      (fun _ aid _ _ _ _ h' => hgood aid _ _ (modifyBid_good h') (hview aid) h)
      (fun aid _ _ h' => hgood aid _ _ (addAllowedBidders_good h') (hview aid) h)
      (fun _ _ _ _ _ => hsame st.core _ rfl (fun _ _ _ _ => rfl) h)
  | kadd aid abs =>
    exact runAtomic_keeps Q st true _ (fun c' hc => hgood aid _ _ (addAllowedBidders_good hc) (hview aid) h) h
  | kupd aid u cap =>
    exact runAtomic_keeps Q st true _ (fun c' hc => hgood aid _ _ (updateAllowedBidder_good hc) (hview aid) h) h
  | block t =>
    have h' : Q ({ st.core with now := t } : Core) := hsame st.core _ rfl (fun _ _ _ _ => rfl) h
    exact runAtomic_keeps Q { st with core := { st.core with now := t } } false _
      (fun c' hc => beginBlock_keeps Q hgood hc (hwf.of_eqs rfl rfl rfl) h') h'
  | genesis => rw [step_genesis st hwf]; exact h
  | listeners n => exact h
  | failhook name idx => exact h
  | fault k => exact h
  | query q => exact h

end Fundraising.EscrowInv

/-! ### coverage and exactness -/

namespace Fundraising

/-- every auction's three escrows cover what its records owe -/
def AllCovered (s : Core) : Prop := ∀ i v, s.views[i]? = some v → EscrowCovered s i v

/-- every auction's three escrows hold exactly what its records owe and nothing else, and
    the escrows of auctions not created yet are empty -/
def AllExact (s : Core) : Prop :=
  (∀ i v, s.views[i]? = some v → EscrowExact s i v) ∧ FutureEscrowsEmpty s

namespace EscrowInv

/-- `AllCov` and `AllEx` have the bodies of `AllCovered` and `AllExact` (`allCovered_iff`,
    `allExact_iff`); no other theorem uses them -/
def AllCov (s : Core) : Prop := ∀ i v, s.views[i]? = some v → EscrowCovered s i v

def AllEx (s : Core) : Prop :=
  (∀ i v, s.views[i]? = some v → EscrowExact s i v) ∧ FutureEscrowsEmpty s

theorem allCovered_iff (s : Core) : AllCovered s ↔ AllCov s := Iff.rfl
theorem allExact_iff (s : Core) : AllExact s ↔ AllEx s := Iff.rfl

theorem Good.allExact {i : Nat} {s s' : Core} (g : Good i s s')
    (hwf : ∀ v, s.views[i]? = some v → ViewWF i v) (h : AllExact s) : AllExact s' := by
  refine ⟨g.all Keeps.exact hwf h.1, ?_⟩
  obtain ⟨v, hv, hk⟩ := g
  obtain ⟨l, -⟩ := hk (hwf v hv)
  have hi := lt_of_getElem? hv
  exact future_of (Nat.le_of_eq l.len.symm)
    (fun x j hx hj => l.bank x j hx (by rw [l.len] at hj; omega)) h.2

theorem allExact_of_same {s s' : Core} (hv : s'.views = s.views)
    (hb : ∀ x j, escIdx x = some j → ∀ d, s'.bank x d = s.bank x d) (h : AllExact s) : AllExact s' :=
  ⟨all_of_same Keeps.exact hv hb h.1,
    future_of (Nat.le_of_eq (congrArg _ hv.symm)) (fun x j hx _ => hb x j hx) h.2⟩

end EscrowInv

open EscrowInv

theorem covered_init : AllCovered ({} : Core) := by
  intro i v h
  simp at h

/-- every operation, including third-party transfers into escrow accounts, keeps the
    escrows covering what is owed -/
theorem covered_step (st : State) (op : Op) (hwf : WF st.core) (hnn : BankNonneg st.core)
    (h : AllCovered st.core) : AllCovered (step st op).2.core := by
  refine step_keeps AllCovered covered_init (fun _ _ _ g w => g.all Keeps.covered w)
    (fun _ _ => all_of_same Keeps.covered) st op hwf (fun c' m hc => ?_)
    (fun src dst d amt _ hpos => ?_) h
  · -- the escrows of the new auction hold what they held, which was not negative
    obtain ⟨b', v, e, hfr, hsl⟩ := createAuction_slack hc
    refine all_append Keeps.covered (v := v) (by rw [e]) (by rw [e]; exact hfr) ?_ h
    rw [escrowCovered_iff, (hsl _).1, (hsl _).2.1, (hsl _).2.2]
    exact ⟨hnn _ _, hnn _ _, hnn _ _⟩
  · -- a gift lowers no escrow balance
    intro j v hv
    obtain ⟨a, b, c⟩ := h j v hv
    have hge : ∀ x, escIdx x = some j → ∀ d', st.core.bank x d' ≤
        (st.core.bank.move (.user src) dst d amt) x d' := by
      intro x hx d'
      simp only [move_apply, esc_ne_user hx, false_and, if_false, Int.sub_zero]
      split <;> omega
    exact ⟨Int.le_trans a (hge _ rfl _), Int.le_trans b (hge _ rfl _), Int.le_trans c (hge _ rfl _)⟩

/-- a history in which no third party sends coins into an escrow account -/
def NoEscrowGifts (ops : List Op) : Prop := ∀ op ∈ ops, op.noEscrowGift = true

theorem exact_init : AllExact ({} : Core) := by
  refine ⟨?_, ?_⟩
  · intro i v h
    simp at h
  · intro i _ d
    exact ⟨rfl, rfl, rfl⟩

/-- every operation other than a third-party transfer into an escrow account keeps the
    escrow balances exactly equal to what is owed -/
theorem exact_step (st : State) (op : Op) (hwf : WF st.core) (hop : op.noEscrowGift = true)
    (h : AllExact st.core) : AllExact (step st op).2.core := by
  refine step_keeps AllExact exact_init (fun _ _ _ => Good.allExact) (fun _ _ => allExact_of_same)
    st op hwf (fun c' m hc => ?_) (fun src dst d amt e _ => ?_) h
  · -- the escrows of the new auction hold what they held: nothing
    obtain ⟨b', v, e, hfr, hsl⟩ := createAuction_slack hc
    refine ⟨all_append Keeps.exact (v := v) (by rw [e]) (by rw [e]; exact hfr) ?_ h.1,
      future_of (by rw [e]; simp) (fun x j hx hj => ?_) h.2⟩
    · rw [escrowExact_iff]
      intro d
      rw [(hsl d).1, (hsl d).2.1, (hsl d).2.2]
      exact h.2 _ (Nat.le_refl _) d
    · rw [e] at hj ⊢
      simp at hj
      exact hfr x j hx (show j ≠ st.core.views.length by omega)
  · -- the gift goes to a user or the pool
    subst e
    refine allExact_of_same (s := st.core) rfl (fun x j hx d' => ?_) h
    simp [move_apply, esc_ne_user hx, esc_ne_gift hop hx]

/-! ### the module's own invariants -/

theorem invariants_of_covered (s : Core) (hw : WF s) (hc : AllCovered s) (hn : BankNonneg s) :
    allInvariantsBroken s = false := by
  have key : ∀ v ∈ s.views, sellingInvHolds s v = true ∧ payingInvHolds s v = true ∧
      vestingInvHolds s v = true := by
    intro v hv
    obtain ⟨i, hi⟩ := List.mem_iff_getElem?.mp hv
    have hid : v.a.id = i := (hw.views i v hi).id
    obtain ⟨c1, c2, c3⟩ := hc i v hi
    subst hid
    refine ⟨?_, ?_, ?_⟩
    · simp only [sellingInvHolds, Bool.or_eq_true, Bool.not_eq_true', decide_eq_false_iff_not,
        decide_eq_true_eq]
      by_cases hst : v.a.status = Status.started
      · right; simpa [owedSell, hst] using c1
      · left; exact hst
    · simp only [payingInvHolds, invTotalBid]
      by_cases hst : v.a.status = Status.started
      · simpa [owedPay, hst, reservedTotal] using c2
      · simpa [hst] using hn _ _
    · simp only [vestingInvHolds, invTotalVesting]
      by_cases hst : v.a.status = Status.vesting
      · simpa [owedVest, hst, unreleasedTotal] using c3
      · simpa [hst] using hn _ _
  simp only [allInvariantsBroken, sellingInvBroken, payingInvBroken, vestingInvBroken,
    Bool.or_eq_false_iff, List.any_eq_false, Bool.not_eq_true', Bool.not_eq_false]
  exact ⟨⟨fun v hv => (key v hv).1, fun v hv => (key v hv).2.1⟩, fun v hv => (key v hv).2.2⟩

end Fundraising
