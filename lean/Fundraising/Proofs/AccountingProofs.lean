import Fundraising.Proofs.LedgerProofs
import Fundraising.Proofs.EscrowProofs
/-
  C02 — a bid needs its auction (`place_needs_view`), and the final accounting over a whole
  history, stated over the monotone ledger of bank calls.
-/
namespace Fundraising

/-- a bid on an auction that does not exist is rejected -/
theorem place_needs_view (st : State) (bidder : Acc) (aid : Nat) (t : BidType) (price : Dec)
    (denom : Denom) (amt : Int) (hv : st.core.views[aid]? = none)
    (hok : (step st (.msg (.place bidder aid (some t) price denom amt))).1.res = .ok) : False := by
  obtain ⟨c, -, hh, -⟩ := step_msg_ok hok
  obtain ⟨v, -, hv', -⟩ := placeBid_iff.mp hh
  rw [hv] at hv'
  cases hv'

/-- the bank calls the module made over a history, in order (successful module operations
    only; a failed operation makes none) -/
def ledgerFrom : State → List Op → List Transfer
  | _, [] => []
  | st, op :: ops =>
    (if op.isModuleOp ∧ (step st op).1.res = .ok then xfersOf (step st op).1.effs else [])
      ++ ledgerFrom (step st op).2 ops

def ledgerOf (ops : List Op) : List Transfer := ledgerFrom {} ops

namespace AccountingInv

theorem ledgerFrom_cons (st : State) (op : Op) (ops : List Op) :
    ledgerFrom st (op :: ops) =
      (if op.isModuleOp ∧ (step st op).1.res = .ok then xfersOf (step st op).1.effs else [])
        ++ ledgerFrom (step st op).2 ops := rfl

theorem reimport_bank {s c : Core} (h : reimport s = .ok c) : c.bank = s.bank := by
  unfold reimport at h
  simp only at h
  split at h
  · cases h
  · split at h
    · cases h
    · cases h; rfl

def IsEscrow (a : Addr) : Prop := (∃ i, a = .sell i) ∨ (∃ i, a = .pay i) ∨ (∃ i, a = .vest i)

theorem IsEscrow.idx {a : Addr} (h : IsEscrow a) : ∃ j, EscrowInv.escIdx a = some j := by
  rcases h with ⟨i, rfl⟩ | ⟨i, rfl⟩ | ⟨i, rfl⟩ <;> exact ⟨i, rfl⟩

/-- one operation: the balance of an escrow account changes by exactly the net of the bank
    calls the module logged for it (none for a failed or non-module operation) -/
theorem step_escrow (st : State) (op : Op) (hr : op ≠ .reset) (hg : op.noEscrowGift = true)
    (a : Addr) (ha : IsEscrow a) (d : Denom) :
    (step st op).2.core.bank a d = st.core.bank a d +
      netFlow (if op.isModuleOp ∧ (step st op).1.res = .ok then xfersOf (step st op).1.effs else []) a d := by
  by_cases hop : op.isModuleOp = true
  · by_cases hok : (step st op).1.res = .ok
    · rw [if_pos ⟨hop, hok⟩]
      exact ledger_pointwise st op hop hok a d
    · rw [if_neg (fun h => hok h.2), failed_op_no_transfer st op hop hok, netFlow_nil]; omega
  · rw [if_neg (fun h => hop h.1), netFlow_nil, Int.add_zero]
    obtain ⟨j, hj⟩ := ha.idx
    cases op with
    | reset => exact (hr rfl).elim
    | fund u d' amt =>
      show st.core.bank a d + (if a = .user u ∧ d = d' ∧ 0 < amt then amt else 0) = _
      rw [if_neg (fun h => EscrowInv.esc_ne_user hj h.1)]; omega
    | gift src dst d' amt =>
      rcases step_gift st src dst d' amt with e | ⟨-, -, hb, e⟩ <;> rw [e]
      show st.core.bank.move (.user src) dst d' amt a d = _
      rw [sendCoins_apply hb .send a d, delta_untouched (Ne.symm (EscrowInv.esc_ne_user hj))
        (Ne.symm (EscrowInv.esc_ne_gift hg hj))]
      omega
    | genesis =>
      rcases step_genesis_cases st with ⟨_, e⟩ | ⟨core, hc, e⟩ <;> rw [e]
      show core.bank a d = _
      rw [reimport_bank hc]
    | msg _ | kadd _ _ | kupd _ _ _ | block _ => exact absurd rfl hop
    | listeners _ | failhook _ _ | fault _ | query _ => rfl

/-- `C02_escrow_balance_is_ledger` from an arbitrary start state -/
theorem escrow_balance_from (ops : List Op) : ∀ (st : State), Op.reset ∉ ops → NoEscrowGifts ops →
    ∀ (a : Addr), IsEscrow a → ∀ (d : Denom),
    (run st ops).core.bank a d = st.core.bank a d + netFlow (ledgerFrom st ops) a d := by
  induction ops with
  | nil => intro st _ _ a _ d; simp [run_nil, ledgerFrom, netFlow_nil]
  | cons op ops ih =>
    intro st hr hg a ha d
    have hr' : Op.reset ∉ ops := fun h => hr (List.mem_cons_of_mem _ h)
    have hop : op ≠ .reset := fun e => hr (e ▸ List.mem_cons_self ..)
    have hg' : NoEscrowGifts ops := fun o ho => hg o (List.mem_cons_of_mem _ ho)
    rw [run_cons, ih (step st op).2 hr' hg' a ha d, ledgerFrom_cons, netFlow_append,
      step_escrow st op hop (hg op (List.mem_cons_self ..)) a ha d]
    omega

/-- the three shapes of a bank call of the module -/
def Shape (t : Transfer) : Prop :=
  (∃ u, t.src = .user u ∧ (t.dst = .pool ∨ (∃ i, t.dst = .sell i) ∨ (∃ i, t.dst = .pay i))) ∨
  (∃ i u, (t.src = .sell i ∨ t.src = .pay i ∨ t.src = .vest i) ∧ t.dst = .user u) ∨
  (∃ i, t.src = .pay i ∧ t.dst = .vest i)

theorem step_shapes (st : State) (op : Op) (hop : op.isModuleOp = true)
    (hok : (step st op).1.res = .ok) : ∀ x ∈ xfersOf (step st op).1.effs, Shape x := by
  intro x hx
  rcases step_transfers st op hop hok with ⟨m, -, h⟩ | ⟨signer, aid, v, -, -, -, h⟩ |
    ⟨bidder, aid, t, price, denom, amt, v, -, -, h⟩ | ⟨bidder, aid, _, _, _, _, d, y, -, -, h⟩ | h |
    ⟨t, rfl⟩
  · rw [h] at hx
    simp only [List.mem_cons, List.not_mem_nil, or_false] at hx
    rcases hx with rfl | rfl
    · exact Or.inl ⟨_, rfl, Or.inl rfl⟩
    · exact Or.inl ⟨_, rfl, Or.inr (Or.inl ⟨_, rfl⟩)⟩
  · rw [h] at hx
    simp only [List.mem_cons, List.not_mem_nil, or_false] at hx
    subst hx
    exact Or.inr (Or.inl ⟨aid, v.a.auctioneer, Or.inl rfl, rfl⟩)
  · rw [h] at hx
    simp only [placeXfers, List.mem_cons, List.not_mem_nil, or_false] at hx
    rcases hx with rfl | rfl
    · exact Or.inl ⟨_, rfl, Or.inl rfl⟩
    · exact Or.inl ⟨_, rfl, Or.inr (Or.inr ⟨_, rfl⟩)⟩
  · rw [h] at hx
    simp only [List.mem_cons, List.not_mem_nil, or_false] at hx
    subst hx
    exact Or.inl ⟨_, rfl, Or.inr (Or.inr ⟨_, rfl⟩)⟩
  · rw [h] at hx
    cases hx
  · exact Or.inr (block_transfers st t x hx)

/-- `C02_ledger_shapes` from an arbitrary start state -/
theorem ledger_shapes_from (ops : List Op) : ∀ (st : State), ∀ t ∈ ledgerFrom st ops, Shape t := by
  induction ops with
  | nil => intro st t ht; cases ht
  | cons op ops ih =>
    intro st t ht
    rw [ledgerFrom_cons, List.mem_append] at ht
    rcases ht with ht | ht
    · by_cases h : op.isModuleOp ∧ (step st op).1.res = .ok
      · rw [if_pos h] at ht
        exact step_shapes st op h.1 h.2 t ht
      · rw [if_neg h] at ht; cases ht
    · exact ih _ t ht

end AccountingInv

end Fundraising
