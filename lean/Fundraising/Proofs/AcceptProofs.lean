import Fundraising.Spec.Accept
import Fundraising.Proofs.OpsMsgs
import Fundraising.Proofs.DecLemmas
/-
  C18 (and the acceptance halves of C06, C11, C12): a message is accepted exactly when its
  documented preconditions hold; a rejected message changes nothing.  Message by message
  (`AcceptAux`: both directions read off the handler equivalences of Proofs/OpsMsgs.lean), then
  the statements at the level of `step` that Props/C18, C06, C11, C12 cite.
-/
namespace Fundraising
namespace AcceptAux

theorem canPay_iff {bank : Bank} {u : Acc} {fee : List Coin} {d : Denom} {amt : Int} (k : XKind) (dst : Addr)
    (hpos : 0 < amt) :
    CanPay bank u fee d amt ↔
      ∃ b, bank.sendAll [⟨.pool, .user u, .pool, fee⟩, ⟨k, .user u, dst, coinsOf d amt⟩] = some b := by
  have hne : ¬ amt = 0 := by omega
  simp only [CanPay, sendAll_cons, sendAll_nil, sendCoins_coinsOf, hne, false_or, exists_eq_right]
  exact ⟨fun ⟨b1, h1, h2⟩ => ⟨_, b1, h1, h2, rfl⟩, fun ⟨_, b1, h1, h2, _⟩ => ⟨b1, h1, h2⟩⟩

/-! ### MsgCancelAuction -/

theorem cancel_inv {c c' : Ctx} {signer : Acc} {aid : Nat}
    (h : deliver c (.cancel signer aid) = .ok c') :
    validAcc signer = true ∧ ∃ v, c.s.views[aid]? = some v ∧ v.a.auctioneer = signer ∧
      v.a.status = .standby ∧
      c'.s.views = c.s.views.set aid v.cancelled ∧
      c'.s.bank (.sell aid) v.a.sellDenom = 0 := by
  obtain ⟨hvb, h⟩ := deliver_iff.mp h
  obtain ⟨v, hv, h1, h2, -, -, b, hp, rfl⟩ := cancelAuction_iff.mp h
  obtain rfl := sendAll_cancel.mp hp.funds
  exact ⟨hvb, v, hv, h1, h2, rfl, by simp [Ctx.setView, Ctx.heard, Ctx.paid, cancelXfer, move_apply]⟩

theorem cancel_accept_of_ok {c c' : Ctx} {signer : Acc} {aid : Nat}
    (h : deliver c (.cancel signer aid) = .ok c') : AcceptCancel c.s signer aid := by
  obtain ⟨h1, v, hv, h2, h3, _⟩ := cancel_inv h
  exact ⟨h1, v, hv, h2, h3⟩

theorem cancel_ok_of_accept {c : Ctx} {signer : Acc} {aid : Nat} (hnn : BankNonneg c.s)
    (hf : c.ctl.failhook = none) (hk : c.ctl.fault = none) (ha : AcceptCancel c.s signer aid) :
    ∃ c', deliver c (.cancel signer aid) = .ok c' := by
  obtain ⟨v, hv, h2, h3⟩ := ha.exists_
  have hvb : validateBasic (.cancel signer aid) = true := ha.signerOk
  exact ⟨_, deliver_iff.mpr ⟨hvb, cancelAuction_iff.mpr ⟨v, hv, h2, h3, hnn _ _, Ctx.hears_of_none hf _, _,
    .of_no_fault hk (sendAll_cancel.mpr rfl),
    rfl⟩⟩⟩

/-! ### MsgUpdateParams -/

theorem params_accept_of_ok {c c' : Ctx} {signer : Acc} {p : Params}
    (h : deliver c (.updateParams signer p) = .ok c') : AcceptParams c.s signer p := by
  obtain ⟨-, h2, h3, h4, -⟩ := handle_updateParams_iff.mp (deliver_iff.mp h).2
  exact ⟨h2, h3, h4⟩

theorem params_ok_of_accept {c : Ctx} {signer : Acc} {p : Params} (ha : AcceptParams c.s signer p) :
    ∃ c', deliver c (.updateParams signer p) = .ok c' :=
  ⟨_, deliver_iff.mpr ⟨rfl, handle_updateParams_iff.mpr
    ⟨by rw [ha.authority]; decide, ha.authority, ha.fees.1, ha.fees.2, rfl⟩⟩⟩

/-! ### MsgCreateFixedPriceAuction / MsgCreateBatchAuction -/

theorem create_accept_of_ok {c c' : Ctx} {m : CreateMsg} (h : deliver c (.create m) = .ok c') :
    AcceptCreate c.s m := by
  obtain ⟨hvb, h⟩ := deliver_iff.mp h
  obtain ⟨h1, h2, h3, -, -, -, b, hp, -⟩ := createAuction_iff.mp h
  simp only [validateBasic, validCoin, Bool.and_eq_true, Bool.or_eq_true, decide_eq_true_eq,
    bne_iff_ne, ne_eq] at hvb
  obtain ⟨⟨⟨⟨⟨⟨⟨⟨⟨v1, v2⟩, v3⟩, v4, v4'⟩, v5⟩, v6⟩, v7⟩, v8⟩, v9⟩, v10⟩ := hvb
  refine ⟨v1, v2, ⟨v4, v5⟩, ⟨v7, v6⟩, v8, h1, ⟨v10, h2⟩, fun hty => ?_, (canPay_iff _ _ v5).mpr ⟨b, hp.funds⟩⟩
  exact ⟨v3.resolve_left (not_not_intro hty), v9.resolve_left (not_not_intro hty), h3 hty⟩

theorem create_ok_of_accept {c : Ctx} {m : CreateMsg} (hf : c.ctl.failhook = none)
    (hk : c.ctl.fault = none) (ha : AcceptCreate c.s m) : ∃ c', deliver c (.create m) = .ok c' := by
  have hvb : validateBasic (.create m) = true := by
    have h1 := ha.signer
    have h2 := ha.startPrice
    obtain ⟨h3, h4⟩ := ha.sellCoin
    obtain ⟨h5, h6⟩ := ha.payDenom
    have h7 := ha.times
    have h8 := ha.schedules.1
    unfold SchedulesOk at h8
    have h9 := ha.batch
    simp only [validateBasic, validCoin, Bool.and_eq_true, Bool.or_eq_true, decide_eq_true_eq,
      bne_iff_ne, ne_eq]
    refine ⟨⟨⟨⟨⟨⟨⟨⟨⟨h1, h2⟩, ?_⟩, ⟨h3, by omega⟩⟩, h4⟩, h6⟩, h5⟩, h7⟩, ?_⟩, h8⟩
    · by_cases hty : m.type = .batch
      · exact Or.inr (h9 hty).1
      · exact Or.inl hty
    · by_cases hty : m.type = .batch
      · exact Or.inr (h9 hty).2.1
      · exact Or.inl hty
  obtain ⟨b, hb⟩ := (canPay_iff .send (.sell c.s.views.length) ha.sellCoin.2).mp ha.funds
  exact ⟨_, deliver_iff.mpr ⟨hvb, createAuction_iff.mpr ⟨ha.endNotPast, ha.schedules.2,
    fun hty => (ha.batch hty).2.2, Int.le_of_lt ha.sellCoin.2, Ctx.hears_of_none hf _, Ctx.hears_of_none hf _,
    b, .of_no_fault hk hb, rfl⟩⟩⟩

/-! ### MsgPlaceBid -/

theorem place_accept_of_ok {c c' : Ctx} {bidder : Acc} {aid : Nat} {t : BidType} {price : Dec}
    {denom : Denom} {amt : Int} (hwf : WF c.s)
    (h : deliver c (.place bidder aid (some t) price denom amt) = .ok c') :
    AcceptPlace c.s bidder aid t price denom amt := by
  obtain ⟨hvb, h⟩ := deliver_iff.mp h
  simp only [validateBasic, validCoin, Bool.and_eq_true, decide_eq_true_eq, Option.isSome_some] at hvb
  obtain ⟨⟨⟨⟨v1, v2⟩, v3, _⟩, v4⟩, _⟩ := hvb
  obtain ⟨v, ab, hv, hst, hmin, hab, hok, -, -, b, hp, -⟩ := placeBid_iff.mp h
  have hpay := (canPay_iff _ _ (Bid.toPaying_pos _ v.a.payDenom v4 v2)).mpr ⟨b, hp.funds⟩
  refine ⟨v1, v2, ⟨v3, v4⟩, v, hv, hst, ab, hab, ?_⟩
  cases t <;> obtain ⟨ht, hd, hrest⟩ := hok
  · exact ⟨ht, hd, hrest.1, hrest.2.1, hrest.2.2, hpay⟩
  · subst hd
    exact ⟨ht, rfl, hmin ht, hrest, by simpa [Bid.toPaying, AView.newBid] using hpay⟩
  · have hne : (v.newBid aid bidder .many price denom amt).denom ≠ v.a.payDenom :=
      hd ▸ (hwf.views aid v hv).auction.denomNe
    rw [Bid.toSelling_sell _ _ hne] at hrest
    exact ⟨ht, hd, hmin ht, hrest, hpay⟩

theorem place_ok_of_accept {c : Ctx} {bidder : Acc} {aid : Nat} {t : BidType} {price : Dec}
    {denom : Denom} {amt : Int} (hwf : WF c.s) (hf : c.ctl.failhook = none) (hk : c.ctl.fault = none)
    (ha : AcceptPlace c.s bidder aid t price denom amt) :
    ∃ c', deliver c (.place bidder aid (some t) price denom amt) = .ok c' := by
  obtain ⟨v1, v2, ⟨v3, v4⟩, v, hv, hst, ab, hab, hrest⟩ := ha
  have hvb : validateBasic (.place bidder aid (some t) price denom amt) = true := by
    simp only [validateBasic, validCoin, Bool.and_eq_true, decide_eq_true_eq, Option.isSome_some]
    exact ⟨⟨⟨⟨v1, v2⟩, v3, by omega⟩, v4⟩, trivial⟩
  have hpos := Bid.toPaying_pos (v.newBid aid bidder t price denom amt) v.a.payDenom v4 v2
  have key : (v.a.type = .batch → v.a.minBid ≤ price) ∧ BidOk v ab (v.newBid aid bidder t price denom amt) ∧
      CanPay c.s.bank bidder c.s.params.bidFee v.a.payDenom
        ((v.newBid aid bidder t price denom amt).toPaying v.a.payDenom) := by
    cases t
    · obtain ⟨ht, hd, h3, h4, h5, hpay⟩ := hrest
      exact ⟨fun hb => (by rw [ht] at hb; cases hb), ⟨ht, hd, h3, h4, h5⟩, hpay⟩
    · obtain ⟨ht, rfl, h3, h4, hpay⟩ := hrest
      exact ⟨fun _ => h3, ⟨ht, rfl, h4⟩, by simpa [Bid.toPaying, AView.newBid] using hpay⟩
    · obtain ⟨ht, hd, h3, h4, hpay⟩ := hrest
      have hne : (v.newBid aid bidder .many price denom amt).denom ≠ v.a.payDenom :=
        hd ▸ (hwf.views aid v hv).auction.denomNe
      exact ⟨fun _ => h3, ⟨ht, hd, by rw [Bid.toSelling_sell _ _ hne]; exact h4⟩, hpay⟩
  obtain ⟨hmin, hok, hpay⟩ := key
  obtain ⟨b, hb⟩ := (canPay_iff .send (.pay aid) hpos).mp hpay
  exact ⟨_, deliver_iff.mpr ⟨hvb, placeBid_iff.mpr ⟨v, ab, hv, hst, hmin, hab, hok, Int.le_of_lt hpos,
    Ctx.hears_of_none hf _, b, .of_no_fault hk hb, rfl⟩⟩⟩

/-! ### MsgModifyBid -/

theorem diff_many_nonneg (b : Bid) (price : Dec) (amt : Int) (ha : 0 < b.amt) (hp : 0 < b.price)
    (hpp : b.price ≤ price) (haa : b.amt ≤ amt) :
    0 ≤ Dec.truncInt (Dec.ceil (Dec.mul (Dec.ofInt amt) price) - Dec.ceil (Dec.mul (Dec.ofInt b.amt) b.price)) := by
  rw [Dec.truncInt_ceil_sub]
  have := Dec.sellPay_mono b.amt amt b.price price (Int.le_of_lt ha) (Int.le_of_lt hp) haa hpp
  omega

theorem modify_inv {c c' : Ctx} {bidder : Acc} {aid bidId : Nat} {price : Dec} {denom : Denom}
    {amt : Int} (hwf : WF c.s) (h : deliver c (.modify bidder aid bidId price denom amt) = .ok c') :
    (validAcc bidder = true ∧ 0 < price ∧ validDenom denom = true ∧ 0 < amt) ∧
    ∃ v, c.s.views[aid]? = some v ∧ v.a.status = .started ∧ v.a.type = .batch ∧
      ∃ b, v.bids.find? (·.id == bidId) = some b ∧ b.bidder = bidder ∧ v.a.minBid ≤ price ∧
        b.denom = denom ∧ b.price ≤ price ∧ b.amt ≤ amt ∧ (b.price < price ∨ b.amt < amt) ∧
        ∃ diff, diff = ({ b with price := price, amt := amt } : Bid).toPaying v.a.payDenom
                          - b.toPaying v.a.payDenom ∧
          0 ≤ diff ∧ (0 < diff → diff ≤ c.s.bank (.user bidder) v.a.payDenom) ∧
          c'.s.bank = c.s.bank.move (.user bidder) (.pay aid) v.a.payDenom diff ∧
          c'.s.views = c.s.views.set aid
            { v with bids :=
                v.bids.map (fun x => if x.id == bidId then { b with price := price, amt := amt } else x) } := by
  obtain ⟨hvb, h⟩ := deliver_iff.mp h
  simp only [validateBasic, validCoin, Bool.and_eq_true, decide_eq_true_eq] at hvb
  obtain ⟨⟨⟨v1, v2⟩, v3, _⟩, v4⟩ := hvb
  obtain ⟨v, bid, hv, hst, hty, hfind, h1, h2, h3, ⟨h4, h5⟩, h6, hpanic, -, b, hp, rfl⟩ := modifyBid_iff.mp h
  have hW := hwf.views aid v hv
  obtain ⟨hD, hD0⟩ := modifyDiff_wf (hW.bids bid (List.mem_of_find?_eq_some hfind)) hty hW.auction.denomNe
    h3 h5 hpanic
  rw [hD] at hp hD0
  obtain ⟨hcov, rfl⟩ := (sendAll_modify hD0).mp hp.funds
  exact ⟨⟨v1, v2, v3, v4⟩, v, hv, hst, hty, bid, hfind, h1, h2, h3, h4, h5,
    h6.imp (fun h => Int.lt_iff_le_and_ne.mpr ⟨h4, Ne.symm h⟩) (fun h => Int.lt_iff_le_and_ne.mpr ⟨h5, Ne.symm h⟩),
    _, rfl, hD0, hcov, rfl, rfl⟩

theorem modify_accept_of_ok {c c' : Ctx} {bidder : Acc} {aid bidId : Nat} {price : Dec} {denom : Denom}
    {amt : Int} (hwf : WF c.s) (hnn : BankNonneg c.s)
    (h : deliver c (.modify bidder aid bidId price denom amt) = .ok c') :
    AcceptModify c.s bidder aid bidId price denom amt := by
  obtain ⟨⟨v1, v2, v3, v4⟩, v, hv, hst, hty, b, hfind, h1, h2, h3, h4, h5, h6, D, hD, hD0, hDc, _⟩ :=
    modify_inv hwf h
  refine ⟨v1, v2, ⟨v3, v4⟩, v, hv, hst, hty, b, hfind, h1, h2, h3, h4, h5, h6, ?_⟩
  show ({ b with price := price, amt := amt } : Bid).toPaying v.a.payDenom - b.toPaying v.a.payDenom
    ≤ c.s.bank (.user bidder) v.a.payDenom
  rw [← hD]
  by_cases hp : 0 < D
  · exact hDc hp
  · have := hnn (.user bidder) v.a.payDenom
    omega

theorem modify_ok_of_accept {c : Ctx} {bidder : Acc} {aid bidId : Nat} {price : Dec} {denom : Denom}
    {amt : Int} (hwf : WF c.s) (hf : c.ctl.failhook = none) (hk : c.ctl.fault = none)
    (ha : AcceptModify c.s bidder aid bidId price denom amt) :
    ∃ c', deliver c (.modify bidder aid bidId price denom amt) = .ok c' := by
  obtain ⟨v1, v2, ⟨v3, v4⟩, v, hv, hst, hty, bid, hfind, h1, h2, h3, h4, h5, h6, hfunds⟩ := ha
  have hfunds : ({ bid with price := price, amt := amt } : Bid).toPaying v.a.payDenom
      - bid.toPaying v.a.payDenom ≤ c.s.bank (.user bidder) v.a.payDenom := hfunds
  have hW := hwf.views aid v hv
  have hB := hW.bids bid (List.mem_of_find?_eq_some hfind)
  have hvb : validateBasic (.modify bidder aid bidId price denom amt) = true := by
    simp only [validateBasic, validCoin, Bool.and_eq_true, decide_eq_true_eq]
    exact ⟨⟨⟨v1, v2⟩, v3, by omega⟩, v4⟩
  have hpanic : bid.type = .many → 0 ≤ (modifyDiff v bid price denom amt).2 := fun ht => by
    simp only [modifyDiff, ht]
    exact diff_many_nonneg bid price amt hB.amt hB.price h4 h5
  obtain ⟨hD, hD0⟩ := modifyDiff_wf hB hty hW.auction.denomNe h3 h5 hpanic
  have hne : price ≠ bid.price ∨ amt ≠ bid.amt :=
    h6.imp (fun h => (Int.ne_of_lt h).symm) (fun h => (Int.ne_of_lt h).symm)
  have hsend : ∃ b, c.s.bank.sendAll (modifyXfers aid bidder (modifyDiff v bid price denom amt)) = some b := by
    rw [hD] at hD0 ⊢
    exact ⟨_, (sendAll_modify hD0).mpr ⟨fun _ => hfunds, rfl⟩⟩
  obtain ⟨b, hsend⟩ := hsend
  exact ⟨_, deliver_iff.mpr ⟨hvb, modifyBid_iff.mpr ⟨v, bid, hv, hst, hty, hfind, h1, h2, h3, ⟨h4, h5⟩, hne,
    hpanic, Ctx.hears_of_none hf _, b, .of_no_fault hk hsend, rfl⟩⟩⟩

end AcceptAux

/-! ### at the level of `step` -/

open AcceptAux in
/-- C18: accepted exactly under the documented preconditions — in every well-formed state, with
    no injected fault and no vetoing listener -/
theorem deliver_ok_iff (st : State) (m : Msg) (hwf : WF st.core) (hnn : BankNonneg st.core)
    (hf : st.ctl.failhook = none) (hk : st.ctl.fault = none) :
    (step st (.msg m)).1.res = .ok ↔ Accept st.core m := by
  rw [step_msg_ok_iff]
  cases m with
  | create m =>
    exact ⟨fun ⟨_, h⟩ => create_accept_of_ok h, fun ha => create_ok_of_accept hf hk ha⟩
  | cancel signer aid =>
    exact ⟨fun ⟨_, h⟩ => cancel_accept_of_ok h, fun ha => cancel_ok_of_accept hnn hf hk ha⟩
  | place bidder aid t price denom amt =>
    cases t with
    | none => exact ⟨fun ⟨_, h⟩ => handle_place_none.mp (deliver_iff.mp h).2, fun ha => ha.elim⟩
    | some t =>
      exact ⟨fun ⟨_, h⟩ => place_accept_of_ok hwf h, fun ha => place_ok_of_accept hwf hf hk ha⟩
  | modify bidder aid bidId price denom amt =>
    exact ⟨fun ⟨_, h⟩ => modify_accept_of_ok hwf hnn h, fun ha => modify_ok_of_accept hwf hf hk ha⟩
  | addAllowed aid ab =>
    refine ⟨fun ⟨_, h⟩ => ?_, fun ha => ha.elim⟩
    exact Bool.noConfusion (hwf.switchOff.symm.trans (handle_addAllowed_iff.mp (deliver_iff.mp h).2).1)
  | updateParams signer p =>
    exact ⟨fun ⟨_, h⟩ => params_accept_of_ok h, fun ha => params_ok_of_accept ha⟩

/-- a rejected message leaves all module state and all balances unchanged (every operation
    kind that runs atomically, for any reason of failure incl. vetoes and faults) -/
theorem reject_unchanged (st : State) (op : Op)
    (hop : (∃ m, op = .msg m) ∨ (∃ a abs, op = .kadd a abs) ∨ (∃ a u c, op = .kupd a u c))
    (h : (step st op).1.res ≠ .ok) : (step st op).2.core = st.core := by
  rcases hop with ⟨m, rfl⟩ | ⟨a, abs, rfl⟩ | ⟨a, u, c, rfl⟩ <;>
    exact (congrArg State.core (runAtomic_failed h).1 :)

open AcceptAux in
/-- what an accepted cancel does to the record and the selling escrow, at the level of `step`; no
    other theorem uses it -/
theorem cancel_effect (st : State) (signer : Acc) (aid : Nat) (v : AView)
    (hv : st.core.views[aid]? = some v)
    (h : (step st (.msg (.cancel signer aid))).1.res = .ok) :
    signer = v.a.auctioneer ∧ v.a.status = .standby ∧
    ∃ v', (step st (.msg (.cancel signer aid))).2.core.views[aid]? = some v' ∧
      v'.a.status = .cancelled ∧ (v.a.type = .fixed → v'.a.remaining = 0) ∧
      (step st (.msg (.cancel signer aid))).2.core.bank (.sell aid) v.a.sellDenom = 0 := by
  obtain ⟨c', hdel, hr⟩ := runAtomic_ok (f := fun c => deliver c (.cancel signer aid)) h
  rw [show step st (.msg (.cancel signer aid)) = _ from hr]
  obtain ⟨_, v0, hv0, h1, h2, hviews, hbank⟩ := cancel_inv hdel
  have hvv : v0 = v := Option.some.inj (hv0.symm.trans hv)
  subst hvv
  have hlt : aid < st.core.views.length := (List.getElem?_eq_some_iff.mp hv).1
  rw [hviews]
  refine ⟨h1.symm, h2, _, List.getElem?_set_self hlt, ?_, ?_, hbank⟩
  · rfl
  · intro hty
    simp [AView.cancelled, hty]

open AcceptAux in
/-- what an accepted modification charges (C11): exactly the increase of the required
    reservation, from the owner to the auction's paying escrow -/
theorem modify_effect (st : State) (bidder : Acc) (aid bidId : Nat) (price : Dec) (denom : Denom)
    (amt : Int) (v : AView) (b : Bid) (hwf : WF st.core)
    (hv : st.core.views[aid]? = some v) (hb : v.bids.find? (·.id == bidId) = some b)
    (h : (step st (.msg (.modify bidder aid bidId price denom amt))).1.res = .ok) :
    let st' := (step st (.msg (.modify bidder aid bidId price denom amt))).2
    let b' : Bid := { b with price := price, amt := amt }
    let diff := b'.toPaying v.a.payDenom - b.toPaying v.a.payDenom
    0 ≤ diff ∧
    st'.core.bank (.pay aid) v.a.payDenom = st.core.bank (.pay aid) v.a.payDenom + diff ∧
    st'.core.bank (.user bidder) v.a.payDenom = st.core.bank (.user bidder) v.a.payDenom - diff ∧
    ∃ v', st'.core.views[aid]? = some v' ∧ v'.bids = v.bids.map (fun x => if x.id == bidId then b' else x) := by
  obtain ⟨c', hdel, hr⟩ := runAtomic_ok (f := fun c => deliver c (.modify bidder aid bidId price denom amt)) h
  intro st' b' diff
  have hst' : st'.core = c'.s := congrArg (·.2.core) hr
  obtain ⟨_, v0, hv0, _, _, b0, hb0, _, _, _, _, _, _, D, hD, hD0, _, hbank, hviews⟩ := modify_inv hwf hdel
  have hvv : v0 = v := Option.some.inj (hv0.symm.trans hv)
  subst hvv
  have hbb : b0 = b := Option.some.inj (hb0.symm.trans hb)
  subst hbb
  have hDd : D = diff := hD
  have hlt : aid < st.core.views.length := (List.getElem?_eq_some_iff.mp hv).1
  rw [hst', hbank, hviews, hDd]
  refine ⟨hDd ▸ hD0, ?_, ?_, _, List.getElem?_set_self hlt, rfl⟩
  · simp [move_apply]
  · simp [move_apply]

end Fundraising
