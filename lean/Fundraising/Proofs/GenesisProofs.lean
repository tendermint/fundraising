import Fundraising.Spec.Invariants
import Fundraising.Proofs.VestingLemmas
import Fundraising.Proofs.ListLemmas
/-
  C15 — export / validate / import of a well-formed state.
-/
namespace Fundraising

theorem noDup_iff {α : Type} [DecidableEq α] (l : List α) : noDup l = true ↔ l.Nodup := by
  induction l with
  | nil => simp [noDup]
  | cons x xs ih => simp [noDup, ih, List.nodup_cons]

theorem foldlM_modifyView_at {β : Type} (tgt : β → Nat) (f : β → AView → AView) (k : Nat) :
    ∀ (l : List β) (ws : List AView) (w : AView), (∀ x ∈ l, tgt x = k) → ws[k]? = some w →
      l.foldlM (fun ws x => modifyView ws (tgt x) (f x)) ws =
        some (ws.set k (l.foldl (fun w x => f x w) w))
  | [], ws, w, _, hw => by
    obtain ⟨hk, rfl⟩ := List.getElem?_eq_some_iff.1 hw
    rw [List.foldl_nil, List.set_getElem_self]; rfl
  | x :: l, ws, w, h, hw => by
    have hm : modifyView ws k (f x) = some (ws.set k (f x w)) := by simp only [modifyView, hw]
    rw [List.foldlM_cons, h x List.mem_cons_self, hm]
    show l.foldlM _ _ = _
    rw [foldlM_modifyView_at tgt f k l _ (f x w) (fun y hy => h y (List.mem_cons_of_mem _ hy))
      (List.getElem?_set_self (lt_of_getElem? hw)), List.set_set]
    rfl

/-! ### one `modifyView`, and a fold of them: length, what holds of every view, a map of the views -/

theorem ImportTie.modifyView_length {vs vs' : List AView} {i : Nat} {f : AView → AView}
    (h : modifyView vs i f = some vs') : vs'.length = vs.length := by
  unfold modifyView at h
  cases hv : vs[i]? <;> simp [hv] at h
  subst h; simp

theorem ImportTie.modifyView_all (P : AView → Prop) {vs vs' : List AView} {i : Nat} {f : AView → AView}
    (hf : ∀ v, P v → P (f v)) (hP : ∀ v ∈ vs, P v)
    (h : modifyView vs i f = some vs') : ∀ v ∈ vs', P v := by
  unfold modifyView at h
  cases hv : vs[i]? <;> simp [hv] at h
  subst h
  intro v hm
  rcases List.mem_or_eq_of_mem_set hm with h1 | h1
  · exact hP v h1
  · subst h1; exact hf _ (hP _ (List.mem_of_getElem? hv))

theorem ImportTie.modifyView_map (g : AView → AView) (vs : List AView) (i : Nat) (f f' : AView → AView)
    (h : ∀ v, vs[i]? = some v → f' (g v) = g (f v)) :
    modifyView (vs.map g) i f' = (modifyView vs i f).map (List.map g) := by
  unfold modifyView
  cases hv : vs[i]? with
  | none => simp [hv]
  | some v => simp [hv, h v hv, List.map_set]

theorem foldlM_modifyView_map {α : Type} (g : AView → AView) (tgt : α → Nat) (f f' : α → AView → AView)
    (h : ∀ x v, f' x (g v) = g (f x v)) (l : List α) (vs : List AView) :
    l.foldlM (fun vs x => modifyView vs (tgt x) (f' x)) (vs.map g) =
      (l.foldlM (fun vs x => modifyView vs (tgt x) (f x)) vs).map (List.map g) := by
  induction l generalizing vs with
  | nil => rfl
  | cons x xs ih =>
    simp only [List.foldlM_cons, ImportTie.modifyView_map g vs (tgt x) (f x) (f' x) (fun v _ => h x v)]
    cases modifyView vs (tgt x) (f x) with
    | none => rfl
    | some vs' => exact ih vs'

theorem foldlM_modifyView_all {α : Type} (P : AView → Prop) (tgt : α → Nat) (f : α → AView → AView)
    (hf : ∀ x v, P v → P (f x v)) (l : List α) {vs vs' : List AView} (hP : ∀ v ∈ vs, P v)
    (h : l.foldlM (fun vs x => modifyView vs (tgt x) (f x)) vs = some vs') : ∀ v ∈ vs', P v := by
  induction l generalizing vs with
  | nil => cases h; exact hP
  | cons x xs ih =>
    rw [List.foldlM_cons] at h
    cases hm : modifyView vs (tgt x) (f x) with
    | none => simp [hm] at h
    | some vs1 => exact ih (ImportTie.modifyView_all P (hf x) hP hm) (by simpa [hm] using h)

theorem foldlM_modifyView_some {α : Type} (tgt : α → Nat) (f : α → AView → AView) (l : List α) (vs : List AView)
    (h : ∀ x ∈ l, tgt x < vs.length) : ∃ vs', l.foldlM (fun vs x => modifyView vs (tgt x) (f x)) vs = some vs' := by
  induction l generalizing vs with
  | nil => exact ⟨vs, rfl⟩
  | cons x xs ih =>
    obtain ⟨v, hv⟩ : ∃ v, vs[tgt x]? = some v := ⟨vs[tgt x]'(h x (by simp)), by simp [h x (by simp)]⟩
    have hm : modifyView vs (tgt x) (f x) = some (vs.set (tgt x) (f x v)) := by simp [modifyView, hv]
    simpa [hm] using ih _ (fun y hy => by simpa [ImportTie.modifyView_length hm] using h y (by simp [hy]))

/-- `InitGenesis` walks one exported collection: the records of the views `vs`, view by view,
    each record addressed to the view it came from (the views after `pre`, in order).  Every
    view `m v` receives exactly the records `g v`. -/
theorem foldlM_modifyView_flatMap {β : Type} (g : AView → List β) (tgt : β → Nat)
    (f : β → AView → AView) (m : AView → AView) :
    ∀ (vs pre : List AView), (∀ j v, vs[j]? = some v → ∀ x ∈ g v, tgt x = pre.length + j) →
      (vs.flatMap g).foldlM (fun ws x => modifyView ws (tgt x) (f x)) (pre ++ vs.map m) =
        some (pre ++ vs.map (fun v => (g v).foldl (fun w x => f x w) (m v)))
  | [], pre, _ => rfl
  | v :: vs, pre, h => by
    have hpre : (pre ++ m v :: vs.map m)[pre.length]? = some (m v) := by
      rw [List.getElem?_append_right (Nat.le_refl _), Nat.sub_self]; rfl
    rw [List.flatMap_cons, List.foldlM_append, List.map_cons,
      foldlM_modifyView_at tgt f pre.length (g v) _ (m v) (fun x hx => h 0 v rfl x hx) hpre]
    show (vs.flatMap g).foldlM _ _ = _
    -- the view just filled joins the prefix
    have := foldlM_modifyView_flatMap g tgt f m vs (pre ++ [(g v).foldl (fun w x => f x w) (m v)])
      (fun j w hw x hx => by
        rw [List.length_append, List.length_singleton, Nat.add_assoc, Nat.add_comm 1]
        exact h (j + 1) w hw x hx)
    rw [List.set_append_right _ _ (Nat.le_refl _), Nat.sub_self]
    rwa [List.append_assoc, List.append_assoc] at this

theorem foldlM_modifyView_export {β : Type} (g : AView → List β) (tgt : β → Nat)
    (f : β → AView → AView) (m : AView → AView) (vs : List AView)
    (h : ∀ j v, vs[j]? = some v → ∀ x ∈ g v, tgt x = j) :
    (vs.flatMap g).foldlM (fun ws x => modifyView ws (tgt x) (f x)) (vs.map m) =
      some (vs.map (fun v => (g v).foldl (fun w x => f x w) (m v))) := by
  simpa using foldlM_modifyView_flatMap g tgt f m vs [] (by simpa using h)

/-! ### per-view folds of `InitGenesis` -/

def genSetAllowed (p : Nat × Allowed) (v : AView) : AView := { v with allowed := setAllowed v.allowed p.2 }
def genAppendBid (b : Bid) (v : AView) : AView :=
  let id := v.bidSeq + 1
  { v with bids := v.bids ++ [{ b with id := id }], bidSeq := id }
def genSetVQ (q : VQ) (v : AView) : AView := { v with vqs := setVQ v.vqs q }
def genFinish (v : AView) : AView :=
  if v.a.type = .batch then { v with matchedLen := countMatched v.bids } else v

theorem foldl_genSetAllowed (l : List (Nat × Allowed)) : ∀ v : AView,
    l.foldl (fun v p => genSetAllowed p v) v =
      { v with allowed := (l.map (·.2)).foldl (fun acc x => setAllowed acc x) v.allowed } := by
  induction l with
  | nil => intro v; rfl
  | cons p ps ih => intro v; simp only [List.foldl_cons, ih, List.map_cons]; rfl

theorem foldl_genSetVQ (l : List VQ) : ∀ v : AView,
    l.foldl (fun v q => genSetVQ q v) v =
      { v with vqs := l.foldl (fun acc x => setVQ acc x) v.vqs } := by
  induction l with
  | nil => intro v; rfl
  | cons p ps ih => intro v; simp only [List.foldl_cons, ih]; rfl

theorem foldl_genAppendBid (l : List Bid) : ∀ v : AView,
    l.map (·.id) = List.range' (v.bidSeq + 1) l.length →
    l.foldl (fun v b => genAppendBid b v) v =
      { v with bids := v.bids ++ l, bidSeq := v.bidSeq + l.length } := by
  induction l with
  | nil => intro v _; simp
  | cons b bs ih =>
    intro v h
    simp only [List.map_cons, List.length_cons, List.range'_succ, List.cons.injEq] at h
    rw [List.foldl_cons, ih (genAppendBid b v) (by simpa [genAppendBid] using h.2)]
    have : ({ b with id := v.bidSeq + 1 } : Bid) = b := by
      cases b; simp only [Bid.mk.injEq, and_true, true_and]; exact h.1.symm
    simp only [genAppendBid, this, List.length_cons, List.append_assoc, List.singleton_append]
    congr 1; omega

theorem vqs_sorted (i : Nat) (v : AView) (h : ViewWF i v) :
    (v.vqs.map (·.release)).Pairwise (· < ·) := by
  cases hs : v.a.status with
  | standby => simp [h.vqsNone (by simp [hs])]
  | started => simp [h.vqsNone (by simp [hs])]
  | cancelled => simp [h.vqsNone (by simp [hs])]
  | vesting => rw [h.vqsSome (by simp [hs])]; exact validSchedules_sorted _ _ h.auction.sched
  | finished => rw [h.vqsSome (by simp [hs])]; exact validSchedules_sorted _ _ h.auction.sched

theorem rebuild_view (i : Nat) (v : AView) (h : ViewWF i v) :
    genFinish (v.vqs.foldl (fun v q => genSetVQ q v)
      (v.bids.foldl (fun v b => genAppendBid b v)
        ((v.allowed.map (fun x => (v.a.id, x))).foldl (fun v p => genSetAllowed p v) ({ a := v.a } : AView)))) = v := by
  rw [foldl_genSetAllowed]
  simp only [List.map_map, Function.comp_def, List.map_id']
  have hA : v.allowed.foldl (fun acc x => setAllowed acc x) [] = v.allowed := by
    have := foldl_upsertBy_sorted (fun a : Allowed => (a.bidder : Int)) v.allowed []
      ((allowedSorted_iff _).1 h.allowedSorted) (fun _ h => nomatch h)
    simpa [setAllowed] using this
  rw [hA]
  rw [foldl_genAppendBid _ _ (by
    simp only [Nat.zero_add]
    rw [h.bidIds, List.range'_eq_map_range]
    apply List.map_congr_left; intro a _; omega)]
  rw [foldl_genSetVQ]
  have hQ : v.vqs.foldl (fun acc x => setVQ acc x) [] = v.vqs := by
    have := foldl_upsertBy_sorted (fun q : VQ => q.release) v.vqs [] (vqs_sorted i v h)
      (fun _ h => nomatch h)
    simpa [setVQ] using this
  simp only [hQ, List.nil_append, Nat.zero_add]
  -- the record is `v` up to `bidSeq` (`h.bidSeq`) and `matchedLen` (0, or the count by type)
  unfold genFinish
  cases ht : v.a.type with
  | batch => simp [← h.matchedLenBatch ht, ← h.bidSeq]
  | fixed => simp [← h.matchedLenFixed ht, ← h.bidSeq]

/-! ### import ∘ export -/

theorem initGenesis_eq (g : Genesis) : initGenesis g =
    ((g.allowed.foldlM (fun vs p => modifyView vs p.1 (genSetAllowed p))
        (g.auctions.zipIdx.map (fun p => ({ a := { p.1 with id := p.2 } } : AView)))).bind fun v1 =>
      (g.bids.foldlM (fun vs b => modifyView vs b.auction (genAppendBid b)) v1).bind fun v2 =>
      (g.vqs.foldlM (fun vs q => modifyView vs q.auction (genSetVQ q)) v2).bind fun v3 =>
      some (v3.map genFinish)) := rfl

/-- import ∘ export needs the views to be well formed, nothing else of the state -/
theorem initGenesis_export (s : Core) (h : ∀ i v, s.views[i]? = some v → ViewWF i v) :
    initGenesis (exportGenesis s) = some s.views := by
  have hid : ∀ (j : Nat) (v : AView), s.views[j]? = some v → v.a.id = j :=
    fun j v hv => (h j v hv).id
  -- the auctions get back the ids they had
  have h0 : ((s.views.map (·.a)).zipIdx.map (fun p => ({ a := { p.1 with id := p.2 } } : AView)))
      = s.views.map (fun v => ({ a := v.a } : AView)) := by
    apply List.ext_getElem?
    intro i
    simp only [List.getElem?_map, List.getElem?_zipIdx]
    cases hv : s.views[i]? with
    | none => simp
    | some v => simp only [Option.map_some, Nat.zero_add]; rw [← hid i v hv]
  -- every exported record names the auction whose view it was read from
  have hA : ∀ (j : Nat) (v : AView), s.views[j]? = some v →
      ∀ x ∈ v.allowed.map (fun x => (v.a.id, x)), x.1 = j := by
    intro j v hv x hx
    obtain ⟨y, _, rfl⟩ := List.mem_map.mp hx
    exact hid j v hv
  have hB : ∀ (j : Nat) (v : AView), s.views[j]? = some v → ∀ b ∈ v.bids, b.auction = j :=
    fun j v hv b hb => ((h j v hv).bids b hb).auction.trans (hid j v hv)
  have hQ : ∀ (j : Nat) (v : AView), s.views[j]? = some v → ∀ q ∈ v.vqs, q.auction = j :=
    fun j v hv q hq => ((h j v hv).vqsWF q hq).2.2.2
  rw [initGenesis_eq]
  simp only [exportGenesis]
  rw [h0, foldlM_modifyView_export _ (fun p : Nat × Allowed => p.1) genSetAllowed _ _ hA,
    Option.bind_some, foldlM_modifyView_export _ (fun b : Bid => b.auction) genAppendBid _ _ hB,
    Option.bind_some, foldlM_modifyView_export _ (fun q : VQ => q.auction) genSetVQ _ _ hQ,
    Option.bind_some, List.map_map]
  congr 1
  refine (List.map_congr_left (fun v hv => ?_)).trans (List.map_id _)
  obtain ⟨i, hi⟩ := List.getElem?_of_mem hv
  exact rebuild_view i v (h i v hi)

/-- importing the exported genesis into an empty store rebuilds every collection exactly:
    auctions with their ids, allow-lists, bids with their ids and `BidSeq`, vesting queues,
    and `MatchedBidsLen` (not exported, rebuilt from the flags) -/
theorem import_export (s : Core) (h : WF s) : initGenesis (exportGenesis s) = some s.views :=
  initGenesis_export s h.views

/-! ### validate ∘ export -/

theorem views_pairwise (s : Core) (h : WF s) : s.views.Pairwise (fun a b => a.a.id < b.a.id) := by
  rw [List.pairwise_iff_getElem]
  intro i j hi hj hij
  rw [(h.views i _ (List.getElem?_eq_getElem hi)).id, (h.views j _ (List.getElem?_eq_getElem hj)).id]
  exact hij

theorem auction_validate (a : Auction) (h : AuctionWF a) : a.validate = true := by
  unfold Auction.validate
  have h7 := h.sched
  cases he : a.endTimes with
  | nil => exact absurd he h.endNonempty
  | cons e es =>
    rw [he] at h7
    simp only [List.headD_cons] at h7
    simp [h.auctioneer, h.pricePos, h.sellDenomOk, h.payDenomOk, h7, validCoin, h.denomNe,
      Int.le_of_lt h.sellPos]

theorem export_validates (s : Core) (h : WF s) : validateGenesis (exportGenesis s) = true := by
  have hwf : ∀ v ∈ s.views, ViewWF v.a.id v := by
    intro v hv
    obtain ⟨n, hn⟩ := List.getElem?_of_mem hv
    have := h.views n v hn
    rwa [this.id]
  have hpw := views_pairwise s h
  unfold validateGenesis exportGenesis
  simp only [Bool.and_eq_true, noDup_iff]
  refine ⟨⟨⟨⟨⟨⟨⟨⟨⟨?_, ?_⟩, ?_⟩, ?_⟩, ?_⟩, ?_⟩, ?_⟩, ?_⟩, h.params.1⟩, h.params.2⟩
  · -- allowed: no duplicates
    apply nodup_map_flatMap (fun v : AView => v.a.id) _ _ _ hpw
    · intro v _ x hx
      obtain ⟨y, _, rfl⟩ := List.mem_map.mp hx
      rfl
    · intro v hv
      rw [List.map_map]
      exact nodup_pair_of_pairwise (· < ·) (fun a => Nat.lt_irrefl a) (fun x : Allowed => x.bidder)
        (fun _ => v.a.id) v.allowed (hwf v hv).allowedSorted
  · -- allowed: valid
    rw [List.all_eq_true]
    intro p hp
    obtain ⟨v, hv, hpv⟩ := List.mem_flatMap.mp hp
    obtain ⟨x, hx, rfl⟩ := List.mem_map.mp hpv
    have hj := hwf v hv
    have := hj.caps x hx
    simp [this.1, this.2]
  · -- vqs: no duplicates
    apply nodup_map_flatMap (fun v : AView => v.a.id) _ _ _ hpw
    · exact fun v hv q hq => ((hwf v hv).vqsWF q hq).2.2.2
    · exact fun v hv => nodup_pair_of_pairwise (· < ·) (fun a => Int.lt_irrefl a)
        (fun q : VQ => q.release) (fun q => q.auction) v.vqs (vqs_sorted _ v (hwf v hv))
  · -- vqs: valid
    rw [List.all_eq_true]
    intro q hq
    obtain ⟨v, hv, hqv⟩ := List.mem_flatMap.mp hq
    have hj := hwf v hv
    obtain ⟨h1, h2, h3, _⟩ := hj.vqsWF q hqv
    simp [validCoin, h1, h2, h3, hj.auction.auctioneer, hj.auction.payDenomOk]
  · -- bids: no duplicates
    apply nodup_map_flatMap (fun v : AView => v.a.id) _ _ _ hpw
    · exact fun v hv b hb => ((hwf v hv).bids b hb).auction
    · intro v hv
      refine nodup_pair_of_pairwise (· ≠ ·) (fun a h => h rfl) (fun b : Bid => b.id)
        (fun b => b.auction) v.bids ?_
      rw [(hwf v hv).bidIds]
      exact nodup_range_succ _
  · -- bids: valid
    rw [List.all_eq_true]
    intro b hb
    obtain ⟨v, hv, hbv⟩ := List.mem_flatMap.mp hb
    have hj := hwf v hv
    have hb := hj.bids b hbv
    -- a bid is in one of the auction's two denominations, whatever its type
    have hden : b.denom = v.a.payDenom ∨ b.denom = v.a.sellDenom := by
      cases ht : v.a.type with
      | fixed => exact (hb.fixed ht).2.2
      | batch => exact (hb.batch ht).imp And.right And.right
    have hd : validDenom b.denom = true := by
      rcases hden with e | e <;> rw [e]
      · exact hj.auction.payDenomOk
      · exact hj.auction.sellDenomOk
    have h1 := hb.bidder
    have h2 := hb.price
    have h3 := hb.amt
    simp [validCoin, hd, h1, h2, h3, Int.le_of_lt h3]
  · -- auctions: no duplicates
    rw [List.map_map, List.Nodup, List.pairwise_map]
    exact hpw.imp (by intro a b hab; simp only [Function.comp]; omega)
  · -- auctions: valid
    rw [List.all_eq_true]
    intro a ha
    obtain ⟨v, hv, rfl⟩ := List.mem_map.mp ha
    exact auction_validate _ (hwf v hv).auction

theorem reimport_eq (s : Core) (h : WF s) : reimport s = .ok s := by
  unfold reimport
  simp only [export_validates s h, import_export s h, Bool.not_true, Bool.false_eq_true, if_false]
  rfl

theorem step_genesis (st : State) (h : WF st.core) : step st .genesis = ({ res := .ok }, st) := by
  have e : step st .genesis = match reimport st.core with
      | .ok core => ({ res := .ok }, { st with core := core })
      | .error what => ({ res := .errWith what }, st) := rfl
  rw [e, reimport_eq _ h]

end Fundraising
