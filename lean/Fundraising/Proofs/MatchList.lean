import Fundraising.Spec.Clearing
import Fundraising.Proofs.ListLemmas
/-
  The list-valued definitions of Model/Match and Spec/Clearing, each with the lemmas through
  which the proofs use it, and `Arrangement`: what the matching theorems assume about the
  order in which `SortBids` leaves the bids.
-/
namespace Fundraising

theorem sumOver_eq (bids : List Bid) (u : Acc) (f : Bid → Int) :
    sumOver bids u f = ((bids.filter (·.bidder == u)).map f).sum := by
  unfold sumOver; rw [foldl_add_eq_sum]; omega

theorem sumOver_cons (f : Bid → Int) (b : Bid) (bids : List Bid) (u : Acc) :
    sumOver (b :: bids) u f = (if b.bidder = u then f b else 0) + sumOver bids u f := by
  rw [sumOver_eq, sumOver_eq, List.filter_cons]
  by_cases h : b.bidder = u
  · simp [h]
  · simp [h]

theorem sumOver_none (f : Bid → Int) (bids : List Bid) (u : Acc) (h : ¬ ∃ b ∈ bids, b.bidder = u) :
    sumOver bids u f = 0 := by
  rw [sumOver_eq]
  have : bids.filter (·.bidder == u) = [] := by
    rw [List.filter_eq_nil_iff]
    intro b hb hbu
    exact h ⟨b, hb, by simpa using hbu⟩
  rw [this]; rfl

theorem sum_sumOver (f : Bid → Int) : ∀ (bids : List Bid) (B : List Acc), B.Nodup →
    (∀ b ∈ bids, b.bidder ∈ B) → (B.map (fun u => sumOver bids u f)).sum = (bids.map f).sum
  | [], B, _, _ => by
    have : (fun u => sumOver [] u f) = fun _ => (0 : Int) := by
      funext u; rfl
    rw [this, isum_map_zero]; rfl
  | b :: bids, B, hB, hin => by
    have ih := sum_sumOver f bids B hB (fun x hx => hin x (List.mem_cons_of_mem _ hx))
    have hu := isum_map_update (fun u => sumOver bids u f) (fun u => sumOver (b :: bids) u f)
      b.bidder (f b) B hB (hin b (List.mem_cons_self))
      (by simp only [sumOver_cons, if_true]; omega)
      (by
        intro v _ hv
        have : ¬ b.bidder = v := fun e => hv e.symm
        simp only [sumOver_cons, this, if_false]; omega)
    rw [hu, ih]
    simp only [List.map_cons, List.sum_cons]
    omega

theorem sumOver_nonneg (f : Bid → Int) (bids : List Bid) (u : Acc) (h : ∀ b ∈ bids, 0 ≤ f b) :
    0 ≤ sumOver bids u f := by
  rw [sumOver_eq]
  exact isum_map_nonneg fun b hb => h b (List.mem_filter.1 hb).1

theorem takeWhile_eq_filter_of_desc (p : Dec) : ∀ (l : List Bid),
    l.Pairwise (fun x y => y.price ≤ x.price) →
    l.takeWhile (fun b => decide (p ≤ b.price)) = l.filter (fun b => decide (p ≤ b.price))
  | [], _ => rfl
  | b :: l, h => by
    rw [List.pairwise_cons] at h
    by_cases hb : p ≤ b.price
    · simp only [List.takeWhile_cons, List.filter_cons, hb, decide_true, if_true]
      rw [takeWhile_eq_filter_of_desc p l h.2]
    · have : l.filter (fun b => decide (p ≤ b.price)) = [] := by
        rw [List.filter_eq_nil_iff]
        intro x hx
        have := h.1 x hx
        simp only [decide_eq_true_eq]
        intro hpx; exact hb (Int.le_trans hpx this)
      simp only [List.takeWhile_cons, List.filter_cons, hb, decide_false, this]
      simp

/-! ### sortBids -/

theorem insertByPrice_perm (b : Bid) : ∀ (l : List Bid), (insertByPrice b l).Perm (b :: l)
  | [] => List.Perm.refl _
  | y :: ys => by
    unfold insertByPrice
    split
    · exact List.Perm.refl _
    · exact ((insertByPrice_perm b ys).cons y).trans (List.Perm.swap b y ys)

theorem insertByPrice_sorted (b : Bid) : ∀ (l : List Bid),
    l.Pairwise (fun x y => y.price ≤ x.price) →
    (insertByPrice b l).Pairwise (fun x y => y.price ≤ x.price)
  | [], _ => by simp [insertByPrice]
  | y :: ys, h => by
    unfold insertByPrice
    have h' := List.pairwise_cons.1 h
    split
    · rename_i hlt
      refine List.pairwise_cons.2 ⟨?_, h⟩
      intro z hz
      rcases List.mem_cons.1 hz with rfl | hz
      · exact Int.le_of_lt hlt
      · exact Int.le_trans (h'.1 z hz) (Int.le_of_lt hlt)
    · rename_i hnlt
      refine List.pairwise_cons.2 ⟨?_, insertByPrice_sorted b ys h'.2⟩
      intro z hz
      rcases List.mem_cons.1 ((insertByPrice_perm b ys).mem_iff.1 hz) with rfl | hz
      · exact Int.not_lt.1 hnlt
      · exact h'.1 z hz

theorem sortBids_foldl (bids : List Bid) : ∀ (acc : List Bid),
    acc.Pairwise (fun x y => y.price ≤ x.price) →
    (bids.foldl (fun acc b => insertByPrice b acc) acc).Perm (acc ++ bids) ∧
    (bids.foldl (fun acc b => insertByPrice b acc) acc).Pairwise (fun x y => y.price ≤ x.price) := by
  induction bids with
  | nil => intro acc h; simpa using h
  | cons b bs ih =>
    intro acc h
    simp only [List.foldl_cons]
    have := ih (insertByPrice b acc) (insertByPrice_sorted b acc h)
    refine ⟨this.1.trans ?_, this.2⟩
    refine ((insertByPrice_perm b acc).append_right bs).trans ?_
    simpa using (List.perm_middle (a := b) (l₁ := acc) (l₂ := bs)).symm

/-- any arrangement `SortBids` could produce: a permutation of the bids with prices
    descending (order inside a price level arbitrary) -/
def Arrangement (bids sorted : List Bid) : Prop :=
  sorted.Perm bids ∧ sorted.Pairwise (fun x y => y.price ≤ x.price)

theorem sortBids_arrangement (bids : List Bid) : Arrangement bids (sortBids bids) := by
  have := sortBids_foldl bids [] List.Pairwise.nil
  unfold Arrangement sortBids
  simpa using this

/-! ### distinctPrices -/

theorem mem_distinctPrices (x : Dec) : ∀ (l : List Bid), x ∈ distinctPrices l ↔ ∃ b ∈ l, b.price = x
  | [] => by simp [distinctPrices]
  | [b] => by simp [distinctPrices, eq_comm]
  | b :: b' :: rest => by
    have ih := mem_distinctPrices x (b' :: rest)
    unfold distinctPrices
    split
    · rename_i heq
      rw [ih]
      constructor
      · rintro ⟨c, hc, e⟩; exact ⟨c, List.mem_cons_of_mem _ hc, e⟩
      · rintro ⟨c, hc, e⟩
        rcases List.mem_cons.1 hc with rfl | hc
        · exact ⟨b', List.mem_cons_self, heq ▸ e⟩
        · exact ⟨c, hc, e⟩
    · rw [List.mem_cons, ih]
      constructor
      · rintro (e | ⟨c, hc, e⟩)
        · exact ⟨b, List.mem_cons_self, e.symm⟩
        · exact ⟨c, List.mem_cons_of_mem _ hc, e⟩
      · rintro ⟨c, hc, e⟩
        rcases List.mem_cons.1 hc with rfl | hc
        · exact Or.inl e.symm
        · exact Or.inr ⟨c, hc, e⟩

theorem distinctPrices_desc : ∀ (l : List Bid), l.Pairwise (fun x y => y.price ≤ x.price) →
    (distinctPrices l).Pairwise (fun x y => y < x)
  | [], _ => by simp [distinctPrices]
  | [b], _ => by simp [distinctPrices]
  | b :: b' :: rest, h => by
    have h' := List.pairwise_cons.1 h
    have ih := distinctPrices_desc (b' :: rest) h'.2
    unfold distinctPrices
    split
    · exact ih
    · rename_i hne
      refine List.pairwise_cons.2 ⟨?_, ih⟩
      intro y hy
      obtain ⟨c, hc, e⟩ := (mem_distinctPrices y (b' :: rest)).1 hy
      have h1 : b'.price ≤ b.price := h'.1 b' List.mem_cons_self
      have h2 : c.price ≤ b'.price := by
        rcases List.mem_cons.1 hc with rfl | hc'
        · exact Int.le_refl _
        · exact (List.pairwise_cons.1 h'.2).1 c hc'
      have h3 : b'.price < b.price := Int.lt_iff_le_and_ne.2 ⟨h1, fun e => hne e.symm⟩
      rw [← e]; exact Int.lt_of_le_of_lt h2 h3

/-! ### biddersOf -/

/-- `insertAcc` is `upsertBy` with the account number as key -/
theorem insertAcc_eq (u : Acc) : ∀ (l : List Acc), insertAcc u l = upsertBy (fun a : Acc => (a : Int)) u l
  | [] => rfl
  | y :: ys => by
    unfold insertAcc upsertBy
    simp only [Int.ofNat_lt, Int.ofNat_inj, insertAcc_eq u ys]
    split
    · rfl
    · split
      · rename_i _ he; rw [he]
      · rfl

/-- "collect the keys of a map into a slice, then sort it": the keys arrive in the order
    `l` chosen by the runtime; the code sorts them (model: insertion into a sorted,
    duplicate-free list — `sort.Strings` on distinct keys) -/
def sortKeys (l : List Acc) : List Acc := l.foldl (fun acc u => insertAcc u acc) []

theorem sortKeys_eq (l : List Acc) :
    sortKeys l = l.foldl (fun acc u => upsertBy (fun a : Acc => (a : Int)) u acc) [] := by
  unfold sortKeys
  simp only [insertAcc_eq]

theorem sortKeys_sorted (l : List Acc) : (sortKeys l).Pairwise (· < ·) := by
  have := (foldl_upsertBy_spec _ (fun _ _ => Int.ofNat_inj.1) l [] List.Pairwise.nil).1
  rw [← sortKeys_eq, List.pairwise_map] at this
  exact this.imp Int.ofNat_lt.1

theorem mem_sortKeys (l : List Acc) (u : Acc) : u ∈ sortKeys l ↔ u ∈ l := by
  rw [sortKeys_eq, (foldl_upsertBy_spec _ (fun _ _ => Int.ofNat_inj.1) l [] List.Pairwise.nil).2 u]
  simp

theorem biddersOf_eq_sortKeys (bids : List Bid) : biddersOf bids = sortKeys (bids.map (·.bidder)) := by
  unfold biddersOf sortKeys; rw [List.foldl_map]

theorem mem_biddersOf (bids : List Bid) (v : Acc) : v ∈ biddersOf bids ↔ ∃ b ∈ bids, b.bidder = v := by
  rw [biddersOf_eq_sortKeys, mem_sortKeys, List.mem_map]

theorem biddersOf_nodup (bids : List Bid) : (biddersOf bids).Nodup := by
  rw [biddersOf_eq_sortKeys]
  exact (sortKeys_sorted _).imp (fun h => Nat.ne_of_lt h)

theorem sum_sumOver_bidders (f : Bid → Int) (bids : List Bid) :
    ((biddersOf bids).map (fun u => sumOver bids u f)).sum = (bids.map f).sum :=
  sum_sumOver f bids _ (biddersOf_nodup bids) (fun b hb => (mem_biddersOf bids _).2 ⟨b, hb, rfl⟩)

theorem lookupAmt_map (g : Acc → Int) (u : Acc) : ∀ (B : List Acc), u ∈ B →
    lookupAmt (B.map (fun v => (v, g v))) u = g u
  | [], h => by cases h
  | y :: B, h => by
    unfold lookupAmt
    rw [List.map_cons, List.find?_cons]
    by_cases hy : y = u
    · subst hy; simp
    · have : ((y, g y).1 == u) = false := by simpa using hy
      rw [this]
      exact lookupAmt_map g u B ((List.mem_cons.1 h).resolve_left (Ne.symm hy))

/-! ### the clearing price -/

theorem exists_min_price (P : Dec → Prop) : ∀ (l : List Bid),
    (∀ b ∈ l, ¬ P b.price) ∨
    ∃ p, (∃ b ∈ l, b.price = p) ∧ P p ∧ ∀ b ∈ l, P b.price → p ≤ b.price
  | [] => Or.inl (fun b hb => by cases hb)
  | b :: l => by
    rcases exists_min_price P l with h | ⟨p0, ⟨c0, hc0, e0⟩, hP0, hmin⟩
    · by_cases hb : P b.price
      · right
        refine ⟨b.price, ⟨b, List.mem_cons_self, rfl⟩, hb, ?_⟩
        intro c hc hPc
        rcases List.mem_cons.1 hc with rfl | hc
        · exact Int.le_refl _
        · exact absurd hPc (h c hc)
      · left
        intro c hc
        rcases List.mem_cons.1 hc with rfl | hc
        · exact hb
        · exact h c hc
    · right
      by_cases hb : P b.price ∧ b.price < p0
      · refine ⟨b.price, ⟨b, List.mem_cons_self, rfl⟩, hb.1, ?_⟩
        intro c hc hPc
        rcases List.mem_cons.1 hc with rfl | hc
        · exact Int.le_refl _
        · exact Int.le_trans (Int.le_of_lt hb.2) (hmin c hc hPc)
      · refine ⟨p0, ⟨c0, List.mem_cons_of_mem _ hc0, e0⟩, hP0, ?_⟩
        intro c hc hPc
        rcases List.mem_cons.1 hc with rfl | hc
        · exact Int.not_lt.1 (fun hlt => hb ⟨hPc, hlt⟩)
        · exact hmin c hc hPc

theorem IsClearingPrice.unique {bids : List Bid} {allowed : List Allowed} {S : Int} {p q : Dec}
    (hp : IsClearingPrice bids allowed S p) (hq : IsClearingPrice bids allowed S q) : p = q := by
  obtain ⟨⟨b, hb, rfl⟩, hpf, hpm⟩ := hp
  obtain ⟨⟨c, hc, rfl⟩, hqf, hqm⟩ := hq
  exact Int.le_antisymm (hpm c hc hqf) (hqm b hb hpf)

theorem IsClearingPrice.not_noPriceFits {bids : List Bid} {allowed : List Allowed} {S : Int} {p : Dec}
    (hp : IsClearingPrice bids allowed S p) : ¬ NoPriceFits bids allowed S := by
  obtain ⟨⟨b, hb, rfl⟩, hpf, -⟩ := hp
  exact fun hn => hn b hb hpf

end Fundraising
