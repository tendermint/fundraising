import Fundraising.Model.Step
import Fundraising.Proofs.ListLemmas
/-
  What a successful step of a handler did, for all the state-machine proofs.  Every primitive
  has an equivalence with the result context explicit (`check_ok`, `view_iff`,
  `mkCoins_iff`, `bankCall_iff`, `hook_iff`), and one for `X >>= rest` (`X_bind_ok`), so
  that a handler opens by one rewrite per statement.  A handler's bank calls are a list of
  transfers: `Pays c xs b` says they go through from `c` and leave the bank `b`, `c.paid xs b` is
  the context after them, `c.heard name args` the context after a hook that `c.Hears`, and
  `c.wrote xs b name args aid v'` the context a handler with bank calls, a hook and a record to
  write ends in (`Pays.wrote` is its `Ran`).
  `Ran c c' E` is what the invariant families need of a successful run: the log grew by `E`, the
  bank is the logged transfers played (`Bank.sendAll`, evaluated by `sendAll_apply`), nothing
  else of the core but the views was touched.  `runAtomic_*` and `step_*` are the boundary to
  `step`.  The section "a handler as an equation" (with `view_of`, `view_none`) serves
  Proofs/Tie alone, which rewrites a handler into the plan the extracted code runs.

  Names: a description of a primitive or of a handler that is an equivalence ends in `_iff` (here,
  Proofs/OpsMsgs.lean, Proofs/OpsBlock.lean), one that is an implication in `_ok`; the small
  rewrites of `… = .ok r` here are called `bind_ok`, `pure_ok`, `fail_ok`, `check_ok`, `X_bind_ok`,
  equivalences though they are.
-/
namespace Fundraising

/-! ### `M = Except Fail` -/

theorem bind_ok {ε α β : Type} {x : Except ε α} {f : α → Except ε β} {b : β} :
    (x >>= f) = .ok b ↔ ∃ a, x = .ok a ∧ f a = .ok b := by
  cases x <;> simp [bind, Except.bind]

theorem pure_ok {ε α : Type} {a b : α} : (pure a : Except ε α) = .ok b ↔ a = b := by
  simp [pure, Except.pure]

theorem fail_ok {α : Type} {c : Ctx} {e : Err} {b : α} : (c.fail e : M α) = .ok b ↔ False := by
  simp [Ctx.fail]

theorem check_ok {c : Ctx} {b : Bool} {u : Unit} : c.check b = .ok u ↔ b = true := by
  unfold Ctx.check Ctx.fail
  cases b <;> simp

/-- a failed check rejects and logs nothing; no other theorem uses it -/
theorem check_error {c : Ctx} {b : Bool} {f : Fail} (h : c.check b = .error f) :
    b = false ∧ f = ⟨.reject, c.effs⟩ := by
  unfold Ctx.check Ctx.fail at h
  cases b <;> simp at h
  exact ⟨rfl, h.symm⟩

theorem _root_.Except.ok_bind {ε α β : Type} (a : α) (f : α → Except ε β) : (Except.ok a >>= f) = f a := rfl

/-- `bind_ok` from right to left; no other theorem uses it -/
theorem bind_eq_ok_of {ε α β : Type} {x : Except ε α} {f : α → Except ε β} {a : α} {b : β}
    (h1 : x = Except.ok a) (h2 : f a = Except.ok b) : (x >>= f) = Except.ok b := by
  rw [h1, Except.ok_bind, h2]

theorem exists_unit {p : Unit → Prop} : (∃ u, p u) ↔ p () :=
  ⟨fun ⟨(), h⟩ => h, fun h => ⟨(), h⟩⟩

/-- a check that does not depend on the outcome of the statement before it -/
theorem exists_and_guard {α : Type} {p r : α → Prop} {g : Prop} :
    (∃ x, p x ∧ g ∧ r x) ↔ g ∧ ∃ x, p x ∧ r x :=
  ⟨fun ⟨x, hp, hg, hr⟩ => ⟨hg, x, hp, hr⟩, fun ⟨hg, x, hp, hr⟩ => ⟨x, hp, hg, hr⟩⟩

/-! ### a handler as an equation: a guard is an `if`, and an `if` moves across `>>=` -/

theorem bind_congr_ok {ε α β : Type} {x : Except ε α} {f g : α → Except ε β} (h : ∀ a, x = .ok a → f a = g a) :
    (x >>= f) = (x >>= g) := by
  cases x with
  | error e => rfl
  | ok a => exact h a rfl

theorem fail_bind {α β : Type} (c : Ctx) (e : Err) (k : α → M β) : ((c.fail e : M α) >>= k) = c.fail e := rfl

theorem check_bind {α : Type} (c : Ctx) (g : Bool) (k : Unit → M α) :
    (c.check g >>= k) = if g then k () else c.fail := by cases g <;> rfl

theorem check_check {α : Type} (c : Ctx) (a b : Bool) (k : Unit → M α) :
    (c.check a >>= fun _ => c.check b >>= k) = c.check (a && b) >>= k := by cases a <;> cases b <;> rfl

theorem ite_bind {α β : Type} (g : Prop) [Decidable g] (x y : M α) (k : α → M β) :
    ((if g then x else y) >>= k) = if g then x >>= k else y >>= k := by
  split <;> rfl

theorem bind_ite {α β : Type} (x : M α) (g : Prop) [Decidable g] (f h : α → M β) :
    (x >>= fun a => if g then f a else h a) = if g then x >>= f else x >>= h := by
  split <;> rfl

/-! ### one rewrite per statement of a handler

`(stmt >>= rest) = .ok r ↔ what stmt checked ∧ rest … = .ok r`.  With `bind_assoc` and `pure_bind`
these turn `handler c … = .ok c'` into the conjunction of its guards and an equation for `c'`; a
statement that returns nothing to bind (a check, a bank call, a hook) leaves no `∃` behind, as it
does under `bind_ok`. -/

theorem fail_bind_ok {α β : Type} {c : Ctx} {e : Err} {f : α → M β} {r : β} :
    ((c.fail e : M α) >>= f) = .ok r ↔ False := by
  simp [Ctx.fail, bind, Except.bind]

theorem check_bind_ok {α : Type} {c : Ctx} {b : Bool} {f : Unit → M α} {r : α} :
    (c.check b >>= f) = .ok r ↔ b = true ∧ f () = .ok r := by
  simp only [bind_ok, check_ok, exists_unit]

/-- `if p { panic }` -/
theorem ite_fail_bind_ok {α β : Type} {p : Prop} [Decidable p] {c : Ctx} {e : Err} {x : M α} {f : α → M β}
    {r : β} : ((if p then c.fail e else x) >>= f) = .ok r ↔ ¬p ∧ (x >>= f) = .ok r := by
  by_cases h : p <;> simp [h, fail_bind_ok]

/-! ### the store -/

theorem view_iff {c : Ctx} {aid : Nat} {v : AView} :
    c.view aid = .ok v ↔ c.s.views[aid]? = some v := by
  unfold Ctx.view Ctx.fail
  cases h : c.s.views[aid]? <;> simp

theorem view_bind_ok {α : Type} {c : Ctx} {aid : Nat} {f : AView → M α} {r : α} :
    (c.view aid >>= f) = .ok r ↔ ∃ v, c.s.views[aid]? = some v ∧ f v = .ok r := by
  simp only [bind_ok, view_iff]

theorem view_of {c : Ctx} {aid : Nat} {v : AView} (hv : c.s.views[aid]? = some v) : c.view aid = pure v :=
  view_iff.mpr hv

theorem view_none {c : Ctx} {aid : Nat} (hv : c.s.views[aid]? = none) : c.view aid = c.fail := by
  unfold Ctx.view
  rw [hv]

theorem setView_views (c : Ctx) (aid : Nat) (v : AView) :
    (c.setView aid v).s.views = c.s.views.set aid v := rfl

theorem setView_bank (c : Ctx) (aid : Nat) (v : AView) : (c.setView aid v).s.bank = c.s.bank := rfl
theorem setView_params (c : Ctx) (aid : Nat) (v : AView) : (c.setView aid v).s.params = c.s.params := rfl
theorem setView_now (c : Ctx) (aid : Nat) (v : AView) : (c.setView aid v).s.now = c.s.now := rfl
theorem setView_ctl (c : Ctx) (aid : Nat) (v : AView) : (c.setView aid v).ctl = c.ctl := rfl
theorem setView_effs (c : Ctx) (aid : Nat) (v : AView) : (c.setView aid v).effs = c.effs := rfl
theorem setView_calls (c : Ctx) (aid : Nat) (v : AView) : (c.setView aid v).calls = c.calls := rfl

theorem view_setView {c : Ctx} {aid : Nat} {v w : AView} (h : c.s.views[aid]? = some v) :
    (c.setView aid w).s.views[aid]? = some w :=
  getElem?_set_of_get h

theorem setView_self {c : Ctx} {aid : Nat} {v : AView} (h : c.s.views[aid]? = some v) :
    c.setView aid v = c := by
  obtain ⟨hi, rfl⟩ := List.getElem?_eq_some_iff.mp h
  unfold Ctx.setView
  rw [List.set_getElem_self]

theorem setView_setView (c : Ctx) (aid : Nat) (v w : AView) :
    (c.setView aid v).setView aid w = c.setView aid w := by
  simp [Ctx.setView]

/-! ### coins and `SendCoins` -/

/-- `sdk.NewCoins(sdk.NewCoin(d, amt))` for `amt ≥ 0` -/
def coinsOf (d : Denom) (amt : Int) : List Coin := if amt = 0 then [] else [⟨d, amt⟩]

theorem coinsOf_nonneg {d : Denom} {amt : Int} (h : 0 ≤ amt) : ∀ x ∈ coinsOf d amt, 0 ≤ x.amt := by
  unfold coinsOf
  split <;> simp
  exact h

theorem mkCoins_iff {c : Ctx} {d : Denom} {amt : Int} {cs : List Coin} :
    mkCoins c d amt = .ok cs ↔ 0 ≤ amt ∧ cs = coinsOf d amt := by
  unfold mkCoins coinsOf Ctx.fail
  by_cases h1 : amt < 0
  · simp [h1]; omega
  · by_cases h2 : amt = 0 <;> simp [h1, h2, eq_comm] <;> omega

theorem mkCoins_bind_ok {α : Type} {c : Ctx} {d : Denom} {amt : Int} {f : List Coin → M α} {r : α} :
    (mkCoins c d amt >>= f) = .ok r ↔ 0 ≤ amt ∧ f (coinsOf d amt) = .ok r := by
  simp only [bind_ok, mkCoins_iff, and_assoc, exists_and_left, exists_eq_left]

theorem mkCoins_pos (c : Ctx) (d : Denom) {amt : Int} (h : amt > 0) : mkCoins c d amt = .ok [⟨d, amt⟩] := by
  rw [mkCoins, if_neg (by omega), if_neg (by omega)]

theorem sendCoins_nil (b : Bank) (src dst : Addr) : b.sendCoins src dst [] = some b := rfl

theorem sendCoins_single (b : Bank) (src dst : Addr) (d : Denom) (amt : Int) :
    b.sendCoins src dst [⟨d, amt⟩] =
      if b src d < amt then none else some (b.move src dst d amt) := by
  simp [Bank.sendCoins]

theorem move_apply (b : Bank) (src dst a : Addr) (d d' : Denom) (amt : Int) :
    (b.move src dst d amt) a d' =
      b a d' - (if a = src ∧ d' = d then amt else 0) + (if a = dst ∧ d' = d then amt else 0) := rfl

theorem move_zero (b : Bank) (src dst : Addr) (d : Denom) : b.move src dst d 0 = b := by
  funext a d'
  simp [Bank.move]

theorem sendCoins_coinsOf {b b' : Bank} {src dst : Addr} {d : Denom} {amt : Int} :
    b.sendCoins src dst (coinsOf d amt) = some b' ↔
      (amt = 0 ∨ amt ≤ b src d) ∧ b' = b.move src dst d amt := by
  unfold coinsOf
  by_cases h0 : amt = 0
  · subst h0
    simp [sendCoins_nil, move_zero, eq_comm]
  · rw [if_neg h0, sendCoins_single]
    by_cases hlt : b src d < amt
    · simp [hlt, h0]; omega
    · simp [hlt, h0, eq_comm]; omega

/-! ### a list of transfers: the bank it makes -/

def Bank.sendAll (b : Bank) : List Transfer → Option Bank
  | [] => some b
  | t :: ts => (b.sendCoins t.src t.dst t.coins).bind (·.sendAll ts)

theorem sendAll_nil {b b' : Bank} : b.sendAll [] = some b' ↔ b = b' := by
  simp [Bank.sendAll]

theorem sendAll_cons {b b' : Bank} {t : Transfer} {ts : List Transfer} :
    b.sendAll (t :: ts) = some b' ↔
      ∃ b1, b.sendCoins t.src t.dst t.coins = some b1 ∧ b1.sendAll ts = some b' := by
  simp [Bank.sendAll, Option.bind_eq_some_iff]

theorem sendAll_one {b b' : Bank} {t : Transfer} :
    b.sendAll [t] = some b' ↔ b.sendCoins t.src t.dst t.coins = some b' := by
  simp [sendAll_cons, sendAll_nil]

theorem sendAll_append {b b' : Bank} {xs ys : List Transfer} :
    b.sendAll (xs ++ ys) = some b' ↔ ∃ b1, b.sendAll xs = some b1 ∧ b1.sendAll ys = some b' := by
  induction xs generalizing b with
  | nil => simp [sendAll_nil]
  | cons t ts ih =>
    simp only [List.cons_append, sendAll_cons, ih]
    exact ⟨fun ⟨b1, h1, b2, h2, h3⟩ => ⟨b2, ⟨b1, h1, h2⟩, h3⟩, fun ⟨b2, ⟨b1, h1, h2⟩, h3⟩ => ⟨b1, h1, b2, h2, h3⟩⟩

/-! ### the ledger of a log, and the bank it makes -/

/-- the transfers in an effect log, in order -/
def xfersOf (effs : List Eff) : List Transfer :=
  effs.filterMap (fun e => match e with | .xfer t => some t | .hook .. => none)

/-- net change a transfer causes to (address, denom) -/
def Transfer.delta (t : Transfer) (a : Addr) (d : Denom) : Int :=
  let amt := ((t.coins.filter (·.denom == d)).map (·.amt)).sum
  (if a = t.dst then amt else 0) - (if a = t.src then amt else 0)

/-- net flow of an account over a ledger -/
def netFlow (l : List Transfer) (a : Addr) (d : Denom) : Int := (l.map (·.delta a d)).sum

theorem xfersOf_append (l l' : List Eff) : xfersOf (l ++ l') = xfersOf l ++ xfersOf l' :=
  List.filterMap_append ..

theorem xfersOf_map_xfer (xs : List Transfer) : xfersOf (xs.map Eff.xfer) = xs := by
  induction xs with
  | nil => rfl
  | cons t ts ih => exact congrArg (t :: ·) ih

theorem xfersOf_filter_isHook (l : List Eff) : xfersOf (l.filter Eff.isHook) = [] := by
  induction l with
  | nil => rfl
  | cons e l ih => cases e <;> simpa [List.filter, Eff.isHook, xfersOf] using ih

theorem netFlow_nil (a : Addr) (d : Denom) : netFlow [] a d = 0 := rfl

theorem netFlow_cons (t : Transfer) (ts : List Transfer) (a : Addr) (d : Denom) :
    netFlow (t :: ts) a d = t.delta a d + netFlow ts a d := by simp [netFlow]

theorem netFlow_append (l l' : List Transfer) (a : Addr) (d : Denom) :
    netFlow (l ++ l') a d = netFlow l a d + netFlow l' a d := by
  simp [netFlow, List.map_append, List.sum_append]

theorem delta_untouched {t : Transfer} {a : Addr} (hs : t.src ≠ a) (hd : t.dst ≠ a) (d : Denom) :
    t.delta a d = 0 := by
  simp [Transfer.delta, Ne.symm hs, Ne.symm hd]

theorem netFlow_untouched {xs : List Transfer} {a : Addr} (h : ∀ t ∈ xs, t.src ≠ a ∧ t.dst ≠ a)
    (d : Denom) : netFlow xs a d = 0 := by
  induction xs with
  | nil => rfl
  | cons t ts ih =>
    have ht := h t (List.mem_cons_self ..)
    rw [netFlow_cons, delta_untouched ht.1 ht.2, ih (fun u hu => h u (List.mem_cons_of_mem _ hu))]
    rfl

theorem delta_single (k : XKind) (src dst a : Addr) (d0 d : Denom) (amt : Int) :
    (⟨k, src, dst, [⟨d0, amt⟩]⟩ : Transfer).delta a d =
      (if a = dst ∧ d = d0 then amt else 0) - (if a = src ∧ d = d0 then amt else 0) := by
  unfold Transfer.delta
  by_cases hd : d0 = d
  · subst hd; simp
  · have : ¬ d = d0 := fun e => hd e.symm
    simp [hd, this]

theorem delta_coinsOf (k : XKind) (src dst a : Addr) (d0 d : Denom) (amt : Int) :
    (⟨k, src, dst, coinsOf d0 amt⟩ : Transfer).delta a d =
      (if a = dst ∧ d = d0 then amt else 0) - (if a = src ∧ d = d0 then amt else 0) := by
  unfold coinsOf
  by_cases h0 : amt = 0
  · simp [h0, Transfer.delta]
  · rw [if_neg h0, delta_single]

theorem sendCoins_apply {src dst : Addr} : ∀ {coins : List Coin} {b b' : Bank},
    b.sendCoins src dst coins = some b' → ∀ (k : XKind) a d,
      b' a d = b a d + (⟨k, src, dst, coins⟩ : Transfer).delta a d
  | [], b, b', h, k, a, d => by cases h; simp [Transfer.delta]
  | c :: cs, b, b', h, k, a, d => by
    simp only [Bank.sendCoins] at h
    split at h
    · cases h
    · rw [sendCoins_apply h k a d]
      simp only [Transfer.delta, Bank.move, List.filter_cons, beq_iff_eq]
      by_cases hd : c.denom = d
      · subst hd; simp only [and_true, if_true, List.map_cons, List.sum_cons]
        split <;> split <;> omega
      · have hd' : ¬ d = c.denom := fun e => hd e.symm
        simp only [hd, hd', and_false, if_false]; omega

theorem sendAll_apply : ∀ {xs : List Transfer} {b b' : Bank},
    b.sendAll xs = some b' → ∀ a d, b' a d = b a d + netFlow xs a d
  | [], b, b', h, a, d => by cases sendAll_nil.mp h; simp [netFlow_nil]
  | t :: ts, b, b', h, a, d => by
    obtain ⟨b1, h1, h2⟩ := sendAll_cons.mp h
    have e : b1 a d = b a d + t.delta a d := sendCoins_apply h1 t.kind a d
    rw [sendAll_apply h2 a d, e, netFlow_cons]; omega

theorem move_nonneg {b : Bank} {src dst : Addr} {d : Denom} {amt : Int}
    (hb : ∀ a d, 0 ≤ b a d) (h0 : 0 ≤ amt) (hle : amt ≤ b src d) :
    ∀ a d', 0 ≤ (b.move src dst d amt) a d' := by
  intro a d'
  rw [move_apply]
  have := hb a d'
  by_cases h1 : a = src ∧ d' = d
  · have hle' : amt ≤ b a d' := by rw [h1.1, h1.2]; exact hle
    rw [if_pos h1]; split <;> omega
  · rw [if_neg h1]; split <;> omega

theorem sendCoins_nonneg {coins : List Coin} : ∀ {b b' : Bank} {src dst : Addr},
    (∀ a d, 0 ≤ b a d) → (∀ x ∈ coins, 0 ≤ x.amt) → b.sendCoins src dst coins = some b' →
    ∀ a d, 0 ≤ b' a d := by
  induction coins with
  | nil =>
    intro b b' src dst hb _ h
    simp [Bank.sendCoins] at h; subst h; exact hb
  | cons x xs ih =>
    intro b b' src dst hb hx h
    unfold Bank.sendCoins at h
    by_cases hlt : b src x.denom < x.amt
    · simp [hlt] at h
    · simp only [hlt, if_false] at h
      exact ih (move_nonneg hb (hx x (List.mem_cons_self ..)) (Int.not_lt.mp hlt))
        (fun y hy => hx y (List.mem_cons_of_mem _ hy)) h

theorem sendAll_nonneg : ∀ {xs : List Transfer} {b b' : Bank},
    (∀ t ∈ xs, ∀ x ∈ t.coins, 0 ≤ x.amt) → (∀ a d, 0 ≤ b a d) → b.sendAll xs = some b' →
    ∀ a d, 0 ≤ b' a d
  | [], _, _, _, hb, h => sendAll_nil.mp h ▸ hb
  | t :: ts, _, _, hx, hb, h => by
    obtain ⟨b1, h1, h2⟩ := sendAll_cons.mp h
    exact sendAll_nonneg (fun u hu => hx u (List.mem_cons_of_mem _ hu))
      (sendCoins_nonneg hb (hx t (List.mem_cons_self ..)) h1) h2

/-! ### the escrows of the other auctions -/

namespace Frame

def esc : Addr → Option Nat
  | .sell a => some a
  | .pay a => some a
  | .vest a => some a
  | _ => none

/-- `x` is a user, the pool, or an escrow of auction `aid` -/
def Loc (aid : Nat) (x : Addr) : Prop := ∀ j, esc x = some j → j = aid

theorem loc_user (aid : Nat) (u : Acc) : Loc aid (.user u) := by intro j h; simp [esc] at h

theorem loc_pool (aid : Nat) : Loc aid .pool := by intro j h; simp [esc] at h

theorem loc_sell (aid : Nat) : Loc aid (.sell aid) := by intro j h; simp [esc] at h; exact h.symm

theorem loc_pay (aid : Nat) : Loc aid (.pay aid) := by intro j h; simp [esc] at h; exact h.symm

/-- the escrows of every auction other than `aid` hold the same -/
def OtherEsc (aid : Nat) (b b' : Bank) : Prop :=
  ∀ x j, esc x = some j → j ≠ aid → ∀ d, b' x d = b x d

theorem OtherEsc.refl (aid : Nat) (b : Bank) : OtherEsc aid b b := fun _ _ _ _ _ => rfl

theorem sendAll_other {aid : Nat} {xs : List Transfer} {b b' : Bank}
    (hl : ∀ t ∈ xs, Loc aid t.src ∧ Loc aid t.dst) (h : b.sendAll xs = some b') : OtherEsc aid b b' := by
  intro x j hx hj d
  rw [sendAll_apply h x d, netFlow_untouched (fun t ht => ?_)]; omega
  exact ⟨fun e => hj ((hl t ht).1 j (e ▸ hx)), fun e => hj ((hl t ht).2 j (e ▸ hx))⟩

end Frame

/-! ### bank calls -/

/-- `c` after the bank calls `xs`, which left the bank `b`: what a handler's equivalence says of its bank calls -/
def Ctx.paid (c : Ctx) (xs : List Transfer) (b : Bank) : Ctx :=
  { c with s := { c.s with bank := b }, effs := c.effs ++ xs.map Eff.xfer, calls := c.calls + xs.length }

/-- the bank calls `xs` go through from `c` and leave the bank `b`: the armed fault, if any, falls
    on none of them and every transfer is covered -/
structure Pays (c : Ctx) (xs : List Transfer) (b : Bank) : Prop where
  fault : ∀ k, c.ctl.fault = some k → k < c.calls ∨ c.calls + xs.length ≤ k
  funds : c.s.bank.sendAll xs = some b

/-- the two halves of `bankCall_iff`, on the raw context (the failure simulation reads them) -/
theorem bankCall_ok {c c' : Ctx} {k : XKind} {src dst : Addr} {coins : List Coin}
    (h : c.bankCall k src dst coins = .ok c') :
    c.ctl.fault ≠ some c.calls ∧
    ∃ b, c.s.bank.sendCoins src dst coins = some b ∧
      c' = { c with s := { c.s with bank := b },
                    effs := c.effs ++ [.xfer ⟨k, src, dst, coins⟩],
                    calls := c.calls + 1 } := by
  unfold Ctx.bankCall Ctx.fail at h
  by_cases hf : c.ctl.fault = some c.calls
  · simp [hf] at h
  · simp only [hf, if_false] at h
    cases hb : c.s.bank.sendCoins src dst coins with
    | none => simp [hb] at h
    | some b =>
      simp only [hb] at h
      exact ⟨hf, b, rfl, (Except.ok.inj h).symm⟩

theorem bankCall_of_send {c : Ctx} {k : XKind} {src dst : Addr} {coins : List Coin} {b : Bank}
    (hf : c.ctl.fault ≠ some c.calls) (hb : c.s.bank.sendCoins src dst coins = some b) :
    c.bankCall k src dst coins =
      .ok { c with s := { c.s with bank := b },
                   effs := c.effs ++ [.xfer ⟨k, src, dst, coins⟩],
                   calls := c.calls + 1 } := by
  unfold Ctx.bankCall
  simp [hf, hb]

theorem bankCall_iff {c c' : Ctx} {k : XKind} {src dst : Addr} {coins : List Coin} :
    c.bankCall k src dst coins = .ok c' ↔
      ∃ b, Pays c [⟨k, src, dst, coins⟩] b ∧ c' = c.paid [⟨k, src, dst, coins⟩] b := by
  constructor
  · intro h
    obtain ⟨hf, b, hb, rfl⟩ := bankCall_ok h
    refine ⟨b, ⟨fun k hk => ?_, by simpa [sendAll_cons, sendAll_nil] using hb⟩, rfl⟩
    have : k ≠ c.calls := fun e => hf (e ▸ hk)
    simp only [List.length_singleton]; omega
  · rintro ⟨b, ⟨hf, hb⟩, rfl⟩
    have hb : c.s.bank.sendCoins src dst coins = some b := by simpa [sendAll_cons, sendAll_nil] using hb
    refine bankCall_of_send (fun e => ?_) hb
    have := hf _ e
    simp only [List.length_singleton] at this; omega

theorem bankCall_bind_ok {α : Type} {c : Ctx} {k : XKind} {src dst : Addr} {coins : List Coin}
    {f : Ctx → M α} {r : α} :
    (c.bankCall k src dst coins >>= f) = .ok r ↔
      ∃ b, Pays c [⟨k, src, dst, coins⟩] b ∧ f (c.paid [⟨k, src, dst, coins⟩] b) = .ok r := by
  simp only [bind_ok, bankCall_iff]
  exact ⟨fun ⟨_, ⟨b, hp, e⟩, hr⟩ => ⟨b, hp, e ▸ hr⟩, fun ⟨b, hp, hr⟩ => ⟨_, ⟨b, hp, rfl⟩, hr⟩⟩

theorem bankCall_views {c c' : Ctx} {k : XKind} {src dst : Addr} {coins : List Coin}
    (h : c.bankCall k src dst coins = .ok c') : c'.s.views = c.s.views := by
  obtain ⟨b, -, rfl⟩ := bankCall_iff.mp h
  rfl

theorem bankCall_now {c c' : Ctx} {k : XKind} {src dst : Addr} {coins : List Coin}
    (h : c.bankCall k src dst coins = .ok c') : c'.s.now = c.s.now := by
  obtain ⟨b, -, rfl⟩ := bankCall_iff.mp h
  rfl

theorem Pays.of_no_fault {c : Ctx} {xs : List Transfer} {b : Bank} (hk : c.ctl.fault = none)
    (h : c.s.bank.sendAll xs = some b) : Pays c xs b :=
  ⟨fun k e => (by rw [hk] at e; cases e), h⟩

theorem pays_nil {c : Ctx} {b : Bank} : Pays c [] b ↔ b = c.s.bank :=
  ⟨fun h => (sendAll_nil.mp h.funds).symm, fun e => ⟨fun k _ => by simp; omega, sendAll_nil.mpr e.symm⟩⟩

theorem Pays.nil (c : Ctx) : Pays c [] c.s.bank := pays_nil.mpr rfl

theorem paid_nil (c : Ctx) : c.paid [] c.s.bank = c := by
  simp [Ctx.paid]

theorem paid_paid (c : Ctx) (xs ys : List Transfer) (b1 b2 : Bank) :
    (c.paid xs b1).paid ys b2 = c.paid (xs ++ ys) b2 := by
  simp [Ctx.paid, Nat.add_assoc]

theorem pays_append {c : Ctx} {xs ys : List Transfer} {b : Bank} :
    Pays c (xs ++ ys) b ↔ ∃ b1, Pays c xs b1 ∧ Pays (c.paid xs b1) ys b := by
  constructor
  · intro ⟨hf, hb⟩
    obtain ⟨b1, h1, h2⟩ := sendAll_append.mp hb
    refine ⟨b1, ⟨fun k hk => ?_, h1⟩, fun k hk => ?_, h2⟩
    all_goals have := hf k hk; simp only [List.length_append, Ctx.paid] at this ⊢; omega
  · rintro ⟨b1, ⟨hf1, h1⟩, hf2, h2⟩
    refine ⟨fun k hk => ?_, sendAll_append.mpr ⟨b1, h1, h2⟩⟩
    have := hf1 k hk; have := hf2 k hk
    simp only [List.length_append, Ctx.paid] at *; omega

/-- two groups of bank calls in a row, for `simp` -/
theorem pays_then_pays {c : Ctx} {xs ys : List Transfer} {q : Bank → Prop} :
    (∃ b1, Pays c xs b1 ∧ ∃ b, Pays (c.paid xs b1) ys b ∧ q b) ↔ ∃ b, Pays c (xs ++ ys) b ∧ q b := by
  simp only [pays_append]
  exact ⟨fun ⟨b1, h1, b, h2, hq⟩ => ⟨b, ⟨b1, h1, h2⟩, hq⟩, fun ⟨b, ⟨b1, h1, h2⟩, hq⟩ => ⟨b1, h1, b, h2, hq⟩⟩

/-- `if p { bank call }` -/
theorem bankCallIf_bind_ok {α : Type} {p : Prop} [Decidable p] {c : Ctx} {k : XKind} {src dst : Addr}
    {coins : List Coin} {f : Ctx → M α} {r : α} :
    ((if p then c.bankCall k src dst coins else pure c) >>= f) = .ok r ↔
      ∃ b, Pays c (if p then [⟨k, src, dst, coins⟩] else []) b ∧
        f (c.paid (if p then [⟨k, src, dst, coins⟩] else []) b) = .ok r := by
  by_cases h : p
  · simp only [h, if_true, bankCall_bind_ok]
  · simp only [h, if_false, pure_bind, pays_nil, exists_eq_left, paid_nil]

theorem pays_setView {c : Ctx} {aid : Nat} {w : AView} {xs : List Transfer} {b : Bank} :
    Pays (c.setView aid w) xs b ↔ Pays c xs b :=
  ⟨fun h => ⟨h.fault, h.funds⟩, fun h => ⟨h.fault, h.funds⟩⟩

theorem paid_setView (c : Ctx) (aid : Nat) (w : AView) (xs : List Transfer) (b : Bank) :
    (c.setView aid w).paid xs b = (c.paid xs b).setView aid w := rfl

/-! ### hooks -/

/-- what one hook call logs when none of the `n` listeners objects -/
def hookEffs (n : Nat) (name : String) (args : List String) : List Eff :=
  (List.range n).map (fun i => Eff.hook i name args)

theorem xfersOf_hookEffs (n : Nat) (name : String) (args : List String) :
    xfersOf (hookEffs n name args) = [] := by
  unfold hookEffs
  induction List.range n with
  | nil => rfl
  | cons i is ih => exact ih

/-- no listener is armed to fail on hook `name` -/
def Ctx.Hears (c : Ctx) (name : String) : Prop :=
  ∀ i < c.ctl.listeners, c.ctl.failhook ≠ some (name, i)

theorem Ctx.hears_of_none {c : Ctx} (hf : c.ctl.failhook = none) (name : String) : c.Hears name :=
  fun i _ => by rw [hf]; simp

theorem hears_paid {c : Ctx} {xs : List Transfer} {b : Bank} {name : String} :
    (c.paid xs b).Hears name ↔ c.Hears name := Iff.rfl

theorem dispatchTo_iff {name : String} {args : List String} {is : List Nat} {c c' : Ctx} :
    dispatchTo name args is c = .ok c' ↔
      (∀ i ∈ is, c.ctl.failhook ≠ some (name, i)) ∧
      c' = { c with effs := c.effs ++ is.map (fun i => Eff.hook i name args) } := by
  induction is generalizing c with
  | nil => simp [dispatchTo, eq_comm]
  | cons i is ih =>
    unfold dispatchTo
    by_cases hf : c.ctl.failhook = some (name, i)
    · simp [hf, Ctx.fail]
    · simp [hf, ih, List.append_assoc]

/-- `c` after the hook `name` was heard by every listener: what an equivalence says of a hook call -/
def Ctx.heard (c : Ctx) (name : String) (args : List String) : Ctx :=
  { c with effs := c.effs ++ hookEffs c.ctl.listeners name args }

theorem hook_iff {c c' : Ctx} {name : String} {args : List String} :
    c.hook name args = .ok c' ↔ c.Hears name ∧ c' = c.heard name args := by
  simp [Ctx.hook, dispatchTo_iff, hookEffs, Ctx.Hears, Ctx.heard]

theorem hook_bind_ok {α : Type} {c : Ctx} {name : String} {args : List String} {f : Ctx → M α} {r : α} :
    (c.hook name args >>= f) = .ok r ↔ c.Hears name ∧ f (c.heard name args) = .ok r := by
  simp only [bind_ok, hook_iff, and_assoc, exists_and_left, exists_eq_left]

theorem dispatchTo_ok {name : String} {args : List String} {is : List Nat} {c c' : Ctx}
    (h : dispatchTo name args is c = .ok c') :
    c'.s = c.s ∧ c'.ctl = c.ctl ∧ c'.calls = c.calls ∧
    c'.effs = c.effs ++ is.map (fun i => Eff.hook i name args) ∧
    ∀ i ∈ is, c.ctl.failhook ≠ some (name, i) := by
  obtain ⟨hf, rfl⟩ := dispatchTo_iff.mp h
  exact ⟨rfl, rfl, rfl, rfl, hf⟩

theorem hook_ok {c c' : Ctx} {name : String} {args : List String} (h : c.hook name args = .ok c') :
    c'.s = c.s ∧ c'.ctl = c.ctl ∧ c'.calls = c.calls ∧
    c'.effs = c.effs ++ (List.range c.ctl.listeners).map (fun i => Eff.hook i name args) := by
  obtain ⟨-, rfl⟩ := hook_iff.mp h
  exact ⟨rfl, rfl, rfl, rfl⟩

theorem hook_of_no_fail (c : Ctx) (name : String) (args : List String)
    (hf : c.ctl.failhook = none) : ∃ c', c.hook name args = .ok c' :=
  ⟨_, hook_iff.mpr ⟨c.hears_of_none hf name, rfl⟩⟩

/-- the hook dispatcher does not look at the module state: it commutes with any change of `s` -/
theorem dispatchTo_withS (name : String) (args : List String) (is : List Nat) (c : Ctx) (s' : Core) :
    dispatchTo name args is { c with s := s' } =
      match dispatchTo name args is c with
      | .ok c' => .ok { c' with s := s' }
      | .error e => .error e := by
  induction is generalizing c with
  | nil => simp [dispatchTo]
  | cons i is ih =>
    unfold dispatchTo
    by_cases hf : c.ctl.failhook = some (name, i)
    · simp [hf, Ctx.fail]
    · simp only [hf, if_false]
      exact ih { c with effs := c.effs ++ [Eff.hook i name args] }

/-- … in particular with the append of a view -/
theorem hook_append (c : Ctx) (name : String) (args : List String) (w : AView) :
    Ctx.hook { c with s := { c.s with views := c.s.views ++ [w] } } name args =
      (c.hook name args >>= fun c' => pure { c' with s := { c'.s with views := c'.s.views ++ [w] } }) := by
  unfold Ctx.hook
  rw [dispatchTo_withS]
  cases h : dispatchTo name args (List.range c.ctl.listeners) c with
  | error e => rfl
  | ok c' => rw [← (hook_ok h).1]; rfl

/-! ### a successful run -/

/-- from `c` to `c'` a handler ran successfully: it logged exactly `E`, made the bank calls in it
    (each succeeded) and otherwise wrote only to the views -/
structure Ran (c c' : Ctx) (E : List Eff) : Prop where
  ctl : c'.ctl = c.ctl
  effs : c'.effs = c.effs ++ E
  calls : c'.calls = c.calls + (xfersOf E).length
  bank : c.s.bank.sendAll (xfersOf E) = some c'.s.bank
  params : c'.s.params = c.s.params
  now : c'.s.now = c.s.now
  enableAdd : c'.s.enableAdd = c.s.enableAdd

theorem Ran.refl (c : Ctx) : Ran c c [] := ⟨rfl, by simp, rfl, rfl, rfl, rfl, rfl⟩

theorem Ran.trans {c c' c'' : Ctx} {E E' : List Eff} (h : Ran c c' E) (h' : Ran c' c'' E') :
    Ran c c'' (E ++ E') where
  ctl := h'.ctl.trans h.ctl
  effs := by rw [h'.effs, h.effs, List.append_assoc]
  calls := by rw [h'.calls, h.calls, xfersOf_append, List.length_append, Nat.add_assoc]
  bank := by rw [xfersOf_append]; exact sendAll_append.mpr ⟨_, h.bank, h'.bank⟩
  params := h'.params.trans h.params
  now := h'.now.trans h.now
  enableAdd := h'.enableAdd.trans h.enableAdd

theorem Ran.setView {c c' : Ctx} {E : List Eff} (h : Ran c c' E) (aid : Nat) (v : AView) :
    Ran c (c'.setView aid v) E := ⟨h.ctl, h.effs, h.calls, h.bank, h.params, h.now, h.enableAdd⟩

theorem Ran.of_setView {c c' : Ctx} {E : List Eff} {aid : Nat} {v : AView} (h : Ran (c.setView aid v) c' E) :
    Ran c c' E := ⟨h.ctl, h.effs, h.calls, h.bank, h.params, h.now, h.enableAdd⟩

theorem Ran.nonneg {c c' : Ctx} {E : List Eff} (h : Ran c c' E)
    (hx : ∀ t ∈ xfersOf E, ∀ x ∈ t.coins, 0 ≤ x.amt) (hn : ∀ a d, 0 ≤ c.s.bank a d) :
    ∀ a d, 0 ≤ c'.s.bank a d :=
  sendAll_nonneg hx hn h.bank

theorem Ran.apply {c c' : Ctx} {E : List Eff} (h : Ran c c' E) (a : Addr) (d : Denom) :
    c'.s.bank a d = c.s.bank a d + netFlow (xfersOf E) a d :=
  sendAll_apply h.bank a d

theorem Pays.paid {c : Ctx} {xs : List Transfer} {b : Bank} (hp : Pays c xs b) :
    Ran c (c.paid xs b) (xs.map Eff.xfer) :=
  ⟨rfl, rfl, by rw [xfersOf_map_xfer]; rfl, by rw [xfersOf_map_xfer]; exact hp.funds, rfl, rfl, rfl⟩

theorem Ran.heard (c : Ctx) (name : String) (args : List String) :
    Ran c (c.heard name args) (hookEffs c.ctl.listeners name args) :=
  ⟨rfl, rfl, by rw [xfersOf_hookEffs]; rfl, by rw [xfersOf_hookEffs]; rfl, rfl, rfl, rfl⟩

/-- the context a handler on auction `aid` ends in: its bank calls `xs` made (leaving the bank `b`),
    its hook heard, the record `v'` written -/
abbrev Ctx.wrote (c : Ctx) (xs : List Transfer) (b : Bank) (name : String) (args : List String) (aid : Nat)
    (v' : AView) : Ctx :=
  ((c.paid xs b).heard name args).setView aid v'

theorem Pays.wrote {c : Ctx} {xs : List Transfer} {b : Bank} (hp : Pays c xs b) (name : String)
    (args : List String) (aid : Nat) (v' : AView) :
    Ran c (c.wrote xs b name args aid v') (xs.map Eff.xfer ++ hookEffs c.ctl.listeners name args) :=
  (hp.paid.trans (Ran.heard _ name args)).setView aid v'

/-! ### the transaction boundary -/

theorem runAtomic_cases (st : State) (recover : Bool) (f : Ctx → M Ctx) :
    (∃ c, f { s := st.core, ctl := st.ctl } = .ok c ∧
        runAtomic st recover f = ({ res := .ok, effs := c.effs }, { core := c.s, ctl := clearOneShots st.ctl })) ∨
    (∃ e, f { s := st.core, ctl := st.ctl } = .error e ∧
        (runAtomic st recover f).2 = { core := st.core, ctl := clearOneShots st.ctl } ∧
        (runAtomic st recover f).1.res ≠ .ok) := by
  unfold runAtomic
  cases h : f { s := st.core, ctl := st.ctl } with
  | ok c => exact Or.inl ⟨c, rfl, rfl⟩
  | error e =>
    refine Or.inr ⟨e, rfl, rfl, ?_⟩
    simp only
    split <;> simp

theorem runAtomic_ok {st : State} {recover : Bool} {f : Ctx → M Ctx}
    (hok : (runAtomic st recover f).1.res = .ok) :
    ∃ c, f { s := st.core, ctl := st.ctl } = .ok c ∧
      runAtomic st recover f = ({ res := .ok, effs := c.effs }, { core := c.s, ctl := clearOneShots st.ctl }) := by
  rcases runAtomic_cases st recover f with h | ⟨_, _, _, hne⟩
  · exact h
  · exact absurd hok hne

theorem runAtomic_ok_iff {st : State} {recover : Bool} {f : Ctx → M Ctx} :
    (runAtomic st recover f).1.res = .ok ↔ ∃ c, f { s := st.core, ctl := st.ctl } = .ok c := by
  refine ⟨fun h => (runAtomic_ok h).imp fun _ h => h.1, fun ⟨c, hc⟩ => ?_⟩
  unfold runAtomic
  rw [hc]

theorem runAtomic_failed {st : State} {recover : Bool} {f : Ctx → M Ctx}
    (hne : (runAtomic st recover f).1.res ≠ .ok) :
    (runAtomic st recover f).2 = { core := st.core, ctl := clearOneShots st.ctl } ∧
      xfersOf (runAtomic st recover f).1.effs = [] := by
  unfold runAtomic at hne ⊢
  split
  · rename_i h; rw [h] at hne; exact absurd rfl hne
  · exact ⟨rfl, xfersOf_filter_isHook _⟩

theorem runAtomic_keeps (P : Core → Prop) (st : State) (recover : Bool) (f : Ctx → M Ctx)
    (hf : ∀ c', f { s := st.core, ctl := st.ctl } = .ok c' → P c'.s) (hp : P st.core) :
    P (runAtomic st recover f).2.core := by
  rcases runAtomic_cases st recover f with ⟨c, hc, e⟩ | ⟨e, _, e2, _⟩
  · rw [e]; exact hf c hc
  · rw [e2]; exact hp

theorem step_msg_ok_iff {st : State} {m : Msg} :
    (step st (.msg m)).1.res = .ok ↔ ∃ c', deliver { s := st.core, ctl := st.ctl } m = .ok c' :=
  runAtomic_ok_iff (f := fun c => deliver c m)

theorem step_gift (st : State) (src : Acc) (dst : Addr) (d : Denom) (amt : Int) :
    step st (.gift src dst d amt) = ({ res := .err }, st) ∨
    (0 < amt ∧ amt ≤ st.core.bank (.user src) d ∧
      st.core.bank.sendCoins (.user src) dst [⟨d, amt⟩] =
        some (st.core.bank.move (.user src) dst d amt) ∧
      step st (.gift src dst d amt) = ({ res := .ok },
        { st with core := { st.core with bank := st.core.bank.move (.user src) dst d amt } })) := by
  -- the arm of `step` by `rfl`: unfolding `step` with `simp` is slow in every file that does it
  have e : step st (.gift src dst d amt) =
      if amt ≤ 0 then ({ res := .err }, st)
      else match st.core.bank.sendCoins (.user src) dst [⟨d, amt⟩] with
        | some b => ({ res := .ok }, { st with core := { st.core with bank := b } })
        | none => ({ res := .err }, st) := rfl
  rw [e, sendCoins_single]
  by_cases hle : amt ≤ 0
  · exact .inl (if_pos hle)
  · rw [if_neg hle]
    by_cases hlt : st.core.bank (.user src) d < amt
    · rw [if_pos hlt]; exact .inl rfl
    · rw [if_neg hlt]; exact .inr ⟨by omega, by omega, rfl, rfl⟩

theorem step_genesis_cases (st : State) :
    (∃ what, step st .genesis = ({ res := .errWith what }, st)) ∨
    ∃ core, reimport st.core = .ok core ∧
      step st .genesis = ({ res := .ok }, { st with core := core }) := by
  have e : step st .genesis = match reimport st.core with
      | .ok core => ({ res := .ok }, { st with core := core })
      | .error what => ({ res := .errWith what }, st) := rfl
  rw [e]
  cases reimport st.core with
  | ok core => exact .inr ⟨core, rfl, rfl⟩
  | error what => exact .inl ⟨what, rfl⟩

/-- baseapp: `ValidateBasic`, then the handler -/
theorem deliver_iff {c c' : Ctx} {m : Msg} :
    deliver c m = .ok c' ↔ validateBasic m = true ∧ handle c m = .ok c' := by
  simp only [deliver, bind_ok, check_ok, exists_unit]

/-- a block is `BeginBlocker` run atomically from the state with the block time set -/
theorem step_block_ok {st : State} {t : Int} (hok : (step st (.block t)).1.res = .ok) :
    ∃ c, beginBlock { s := { st.core with now := t }, ctl := st.ctl } t = .ok c ∧
      step st (.block t) = ({ res := .ok, effs := c.effs }, { core := c.s, ctl := clearOneShots st.ctl }) :=
  runAtomic_ok (st := { st with core := { st.core with now := t } }) (f := fun c => beginBlock c t) hok

theorem step_block_failed {st : State} {t : Int} (hne : (step st (.block t)).1.res ≠ .ok) :
    (step st (.block t)).2 = { core := { st.core with now := t }, ctl := clearOneShots st.ctl } ∧
      xfersOf (step st (.block t)).1.effs = [] :=
  runAtomic_failed (st := { st with core := { st.core with now := t } }) (f := fun c => beginBlock c t) hne

theorem step_msg_ok {st : State} {m : Msg} (hok : (step st (.msg m)).1.res = .ok) :
    ∃ c, validateBasic m = true ∧ handle { s := st.core, ctl := st.ctl } m = .ok c ∧
      step st (.msg m) = ({ res := .ok, effs := c.effs }, { core := c.s, ctl := clearOneShots st.ctl }) := by
  obtain ⟨c, hc, hr⟩ := runAtomic_ok (f := fun c => deliver c m) hok
  exact ⟨c, (deliver_iff.mp hc).1, (deliver_iff.mp hc).2, hr⟩

end Fundraising
