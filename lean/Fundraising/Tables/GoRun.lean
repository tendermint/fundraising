import Fundraising.Tables.GoSem
import Fundraising.Model.Block
/-
  The interpreter of the effect lists produced by the TRANSLATED keeper functions
  (`Generated/Code/*.lean`): what each recorded call does in the model's execution monad.

  A translated handler is a pure function from the message and the values it reads from the
  store (its oracle parameters) to `(error?, [recorded calls])`.  `runPlan` executes such a
  plan: bank / distribution calls and hooks act on the context one after the other (each can
  fail and abort the operation, exactly as in `Model/Exec.lean`); writes to the collections of
  the auction concerned are collected in a working copy of its view and stored when the
  handler returns.  (No handler reads back a record it has written, so deferring the writes to
  the end of the handler is not observable; it is also how the hand-written model is laid
  out.)  `Proofs/Tie/*.lean` prove `handler c … = runPlan c … (Gen.Handler …)` for the
  hand-written handlers of `Model/Keeper.lean` / `Model/Block.lean`.

  They do it in two steps.  The plan of the MODEL handler is written down by hand: `placePlan`,
  `modifyPlan`, `createPlan`, `cancelPlan`, of the type the translated handler returns;
  `closeBatchPlan`, a `List GEff` only, since it has no guard that refuses; for the two loops
  `addPlan` and `relRun`, which returns the auction record the loop carries beside the calls.  It
  has the guards the handler checks, in its order, and the calls it makes when they pass.  One
  lemma speaks of the model only and finds the handler in the run of that plan (`…_eq_plan`; for
  the loops `AddAllowedBidders_loop1_model`, `ReleaseVestingPayingCoin_loop1_model`), by rewriting.
  What is left for the translated code is an equation between two plans, with no monad in it (the
  ties themselves; `AddAllowedBidders_loop1_code`, `ReleaseVestingPayingCoin_loop1_code`), and that
  one is by `simp` and `grind`, so that it does not depend on how the Go source spells its guards
  and locals.

  Tying a new keeper method `Foo` (a guard, a store write, a bank call, a hook).  Its unit in extract/units.go
  says which reads are oracle parameters and which Go call is recorded under which `GName` (a new kind of
  call is a new constructor of `GName`, a new message a structure, both in Tables/GoSem.lean).  The interpreter:
  `runPlan` / `runPlanAt` / `runPlanNew` for a handler that decides first and acts then; `runSettle` on the
  block path, where a nested call is run by the MODEL's function of that name; `runIO`, `runListeners` for
  payouts and listeners.  Each recorded call needs its arm in `applyEff`, whose argument pattern must be the
  recorded `GVal` shapes exactly: anything else falls through to the last arm and panics.  Then `fooPlan`
  and `foo_eq_plan`, stated at `v.a.id` (as `placeBid_eq_plan`; `modifyBid_eq_plan` is stated at a free `aid`:
  see `modifyPlan`); `tie_Foo` (`subst hid; rw [foo_eq_plan]; congr 1; unfold Gen.Foo fooPlan; simp …; grind`,
  as `tie_PlaceBid`); `tie_Foo_noAuction`, because `runPlanAt` must also be right when no view is filed under
  the id.  For a message: its constructor of `Msg` with the arms of `validateBasic` and `handle`
  (Model/Keeper.lean), `tie_ValidateBasic_foo` (Proofs/Tie/Msgs.lean), in Proofs/Tie/Server.lean the message
  server (`tie_MsgServer_PlaceBid`) and `ValidateBasic` in front of it (`tie_deliver_place`), an arm of
  `translatedDeliver` and of `refinement_deliver`.  For a keeper-API method an arm of `stepT`
  (Proofs/Tie/CodeLevel.lean): `.kadd` runs `translatedKadd`; `.kupd` has none, although
  `tie_UpdateAllowedBidder` exists, and is the model's `step`.
  A new Tie module goes into the list of bin/setup, the tie into `TIES` of bin/check under its properties.
-/
namespace Fundraising
namespace Go

/-- `Bid.Set(Join(aid, id), b)` inside one auction's prefix: replace the record with that id,
    or append it (ids are assigned in increasing order, so a new id is the largest key) -/
def setBid (l : List Bid) (b : Bid) : List Bid :=
  if l.any (·.id == b.id) then l.map (fun x => if x.id == b.id then b else x) else l ++ [b]

theorem setBid_fresh (l : List Bid) (b : Bid) (h : ∀ x ∈ l, x.id ≠ b.id) : setBid l b = l ++ [b] := by
  unfold setBid
  have : l.any (·.id == b.id) = false := by
    simp only [List.any_eq_false, beq_iff_eq]
    exact fun x hx => h x hx
  simp [this]

theorem setBid_found (l : List Bid) (b b' : Bid) (n : Nat) (h : l.find? (·.id == n) = some b) (hb : b'.id = b.id) :
    setBid l b' = l.map (fun x => if x.id == n then b' else x) := by
  have h1 := List.find?_some h
  have h2 := List.mem_of_find?_eq_some h
  simp only [beq_iff_eq] at h1
  unfold setBid
  have : l.any (·.id == b'.id) = true := by
    simp only [List.any_eq_true, beq_iff_eq]
    exact ⟨b, h2, hb.symm⟩
  rw [if_pos this]
  simp [hb, h1]

/-- `AllowedBidder.Set(Join(aid, bidder), ab)` inside one auction's prefix -/
def setAllowedArg (l : List Allowed) (ab : AllowedArg) : List Allowed :=
  setAllowed l { bidder := ab.bidder, cap := ab.cap }

/-- the destination of a `SendCoins`: an account (`.nat u`) or a module address -/
def dstOf : GVal → Option Addr
  | .nat u => some (.user u)
  | .addr a => some a
  | _ => none

/-! ### keyed store reads: the oracle FUNCTIONS of a translated handler, in state `s`.
    A translated `k.Auction.Get(ctx, key)` is `auctionGet__ key`: the value depends on the key
    the CODE passes, so a handler that reads under another key reads another record (or
    nothing), and its tie theorem no longer holds. -/

/-- the view filed under auction id `k` (`Auction`, `Bid`, `AllowedBidder`, `VestingQueue`,
    `MatchedBidsLen` and `BidSeq` are all keyed by, or prefixed with, the auction id) -/
def viewAt (s : Core) (k : Int) : Option AView := if 0 ≤ k then s.views[k.toNat]? else none

@[simp] theorem viewAt_nat (s : Core) (aid : Nat) : viewAt s (aid : Int) = s.views[aid]? := by
  simp [viewAt]

/-- `k.Auction.Get(ctx, id)` -/
def rdAuction (s : Core) (k : Int) : Auction × Bool :=
  match viewAt s k with
  | some v => (v.a, false)
  | none => (default, true)

/-- `k.AllowedBidder.Get(ctx, Join(id, bidder))` -/
def rdAllowed (s : Core) (k : Int) (u : Acc) : Allowed × Bool :=
  match viewAt s k with
  | some v => ((lookupAllowed v.allowed u).getD default, (lookupAllowed v.allowed u).isNone)
  | none => (default, true)

/-- `k.Bid.Get(ctx, Join(id, bidId))` -/
def rdBid (s : Core) (k i : Int) : Bid × Bool :=
  match viewAt s k with
  | some v => ((v.bids.find? (fun b => decide ((b.id : Int) = i))).getD default,
               (v.bids.find? (fun b => decide ((b.id : Int) = i))).isNone)
  | none => (default, true)

/-- `k.GetBidsByBidder(ctx, bidder)`: the bidder's bids of ALL auctions, in store order -/
def rdBidsByBidder (s : Core) (u : Acc) : List Bid :=
  (s.views.flatMap (·.bids)).filter (·.bidder == u)

/-- `k.GetNextBidIdWithUpdate(ctx, id)`: the value returned (the write is the recorded effect) -/
def rdNextBidId (s : Core) (k : Int) : Int :=
  match viewAt s k with
  | some v => ((v.bidSeq + 1 : Nat) : Int)
  | none => 1

/-- `k.GetLastMatchedBidsLen(ctx, id)` -/
def rdMatchedLen (s : Core) (k : Int) : Int :=
  match viewAt s k with
  | some v => (v.matchedLen : Int)
  | none => 0

/-- `k.GetVestingQueuesByAuctionId(ctx, id)` -/
def rdVqs (s : Core) (k : Int) : List VQ := ((viewAt s k).map (·.vqs)).getD []

/-- `k.GetBidsByAuctionId(ctx, id)` -/
def rdBids (s : Core) (k : Int) : List Bid := ((viewAt s k).map (·.bids)).getD []

/-- `k.GetAllowedBiddersByAuction(ctx, id)` -/
def rdAllowedList (s : Core) (k : Int) : List Allowed := ((viewAt s k).map (·.allowed)).getD []

section reads
variable {s : Core} {aid : Nat} {v : AView}

theorem rdAuction_some (h : s.views[aid]? = some v) : rdAuction s aid = (v.a, false) := by simp [rdAuction, h]
theorem rdAuction_none (h : s.views[aid]? = none) : rdAuction s aid = (default, true) := by simp [rdAuction, h]
theorem rdAllowed_some (h : s.views[aid]? = some v) (u : Acc) :
    rdAllowed s aid u = ((lookupAllowed v.allowed u).getD default, (lookupAllowed v.allowed u).isNone) := by
  simp [rdAllowed, h]
/-- the key the code passes is a bid id of the model: the record `find?` finds -/
theorem rdBid_some (h : s.views[aid]? = some v) (i : Nat) :
    rdBid s aid i = ((v.bids.find? (·.id == i)).getD default, (v.bids.find? (·.id == i)).isNone) := by
  have : (fun b : Bid => decide ((b.id : Int) = (i : Int))) = (·.id == i) := by
    funext b
    rw [Bool.eq_iff_iff]
    simp [Int.ofNat_inj]
  simp [rdBid, h, this]
theorem rdNextBidId_some (h : s.views[aid]? = some v) : rdNextBidId s aid = ((v.bidSeq + 1 : Nat) : Int) := by
  simp [rdNextBidId, h]
theorem rdMatchedLen_some (h : s.views[aid]? = some v) : rdMatchedLen s aid = (v.matchedLen : Int) := by
  simp [rdMatchedLen, h]
theorem rdVqs_some (h : s.views[aid]? = some v) : rdVqs s aid = v.vqs := by simp [rdVqs, h]
/-- these two reads are oracles of `CalculateFixedPriceAllocation` and `CalculateBatchAllocation`, whose ties
    take what the oracle returns as a hypothesis (`hbF`, `haF`); no theorem uses the two equations -/
theorem rdBids_some (h : s.views[aid]? = some v) : rdBids s aid = v.bids := by simp [rdBids, h]
theorem rdAllowedList_some (h : s.views[aid]? = some v) : rdAllowedList s aid = v.allowed := by
  simp [rdAllowedList, h]

end reads

/-- one recorded call of a MESSAGE handler / keeper-API function, on the context and the
    working copy of the view of the auction the operation concerns -/
def applyEff (e : GEff) (c : Ctx) (v : AView) : M (Ctx × AView) :=
  match e.name, e.args with
  | .payPlaceBidFee, [.nat u] => do
    let c ← c.bankCall .pool (.user u) .pool c.s.params.bidFee
    pure (c, v)
  | .payCreationFee, [.nat u] => do
    let c ← c.bankCall .pool (.user u) .pool c.s.params.creationFee
    pure (c, v)
  | .reservePayingCoin, [.int a, .nat u, .coin cn] => do
    let coins ← mkCoins c cn.denom cn.amt
    let c ← c.bankCall .send (.user u) (.pay a.toNat) coins
    pure (c, v)
  | .reserveSellingCoin, [.int a, .nat u, .coin cn] => do
    let coins ← mkCoins c cn.denom cn.amt
    let c ← c.bankCall .send (.user u) (.sell a.toNat) coins
    pure (c, v)
  | .sendCoins, [.addr src, dst, .coin cn] =>
    match dstOf dst with
    | none => c.fail .panic
    | some d => do
      let coins ← mkCoins c cn.denom cn.amt
      let c ← c.bankCall .send src d coins
      pure (c, v)
  -- the same from an ACCOUNT (`ReserveSellingCoin` / `ReservePayingCoin`)
  | .sendCoins, [.nat u, dst, .coin cn] =>
    match dstOf dst with
    | none => c.fail .panic
    | some d => do
      let coins ← mkCoins c cn.denom cn.amt
      let c ← c.bankCall .send (.user u) d coins
      pure (c, v)
  -- `distrKeeper.FundCommunityPool(ctx, coins, from)`
  | .fundPool, [.coins l, .nat u] => do
    let c ← c.bankCall .pool (.user u) .pool l
    pure (c, v)
  -- store writes: the KEY the code passes must be the key the model files the record under —
  -- the auction this operation concerns, and the record's own id / bidder / release time.
  -- A write under any other key has no counterpart in the model: the plan does not run.
  | .nextBidId, [.int k] =>
    if k = (v.a.id : Int) then pure (c, { v with bidSeq := v.bidSeq + 1 }) else c.fail .panic
  | .auctionSet, [.int k, .auction a] =>
    if k = (v.a.id : Int) ∧ a.id = v.a.id then pure (c, { v with a := a }) else c.fail .panic
  | .bidSet, [.int k, .int i, .bid b] =>
    if k = (v.a.id : Int) ∧ i = (b.id : Int) then pure (c, { v with bids := setBid v.bids b }) else c.fail .panic
  | .allowedSet, [.int k, .nat u, .allowed1 ab] =>
    if k = (v.a.id : Int) ∧ u = ab.bidder then pure (c, { v with allowed := setAllowedArg v.allowed ab }) else c.fail .panic
  | .vqSet, [.int k, .int r, .vq q] =>
    if k = (v.a.id : Int) ∧ r = q.release then pure (c, { v with vqs := setVQ v.vqs q }) else c.fail .panic
  | .beforeBidPlaced, [.int a, .int i, .nat u, .bidType t, .int p, .coin cn] => do
    let c ← c.hook "BeforeBidPlaced" [rNat a.toNat, rNat i.toNat, rAcc u, rBidType t, rInt p, rNat cn.denom, rInt cn.amt]
    pure (c, v)
  | .beforeBidModified, [.int a, .int i, .nat u, .bidType t, .int p, .coin cn] => do
    let c ← c.hook "BeforeBidModified" [rNat a.toNat, rNat i.toNat, rAcc u, rBidType t, rInt p, rNat cn.denom, rInt cn.amt]
    pure (c, v)
  | .beforeAuctionCanceled, [.int a, .nat u] => do
    let c ← c.hook "BeforeAuctionCanceled" [rNat a.toNat, rAcc u]
    pure (c, v)
  | .beforeAllowedBiddersAdded, [.allowed l] => do
    let c ← c.hook "BeforeAllowedBiddersAdded" (rAllowedArgs l)
    pure (c, v)
  | .beforeAllowedBidderUpdated, [.int a, .nat u, .int cap] => do
    let c ← c.hook "BeforeAllowedBidderUpdated" [rNat a.toNat, rAcc u, rInt cap]
    pure (c, v)
  | .beforeFixedCreated, [.nat u, .int sp, .coin sc, .nat pd, .sched vs, .int st, .int en] => do
    let c ← c.hook "BeforeFixedPriceAuctionCreated"
      ([rAcc u, rInt sp, rNat sc.denom, rInt sc.amt, rNat pd] ++ rSchedules vs ++ [rInt st, rInt en])
    pure (c, v)
  | .afterFixedCreated, [.int id, .nat u, .int sp, .coin sc, .nat pd, .sched vs, .int st, .int en] => do
    let c ← c.hook "AfterFixedPriceAuctionCreated"
      ([rNat id.toNat, rAcc u, rInt sp, rNat sc.denom, rInt sc.amt, rNat pd] ++ rSchedules vs ++ [rInt st, rInt en])
    pure (c, v)
  | .beforeBatchCreated, [.nat u, .int sp, .int mb, .coin sc, .nat pd, .sched vs, .int mx, .int rt, .int st, .int en] => do
    let c ← c.hook "BeforeBatchAuctionCreated"
      ([rAcc u, rInt sp, rInt mb, rNat sc.denom, rInt sc.amt, rNat pd] ++ rSchedules vs ++ [rNat mx.toNat, rInt rt, rInt st, rInt en])
    pure (c, v)
  | .afterBatchCreated, [.int id, .nat u, .int sp, .int mb, .coin sc, .nat pd, .sched vs, .int mx, .int rt, .int st, .int en] => do
    let c ← c.hook "AfterBatchAuctionCreated"
      ([rNat id.toNat, rAcc u, rInt sp, rInt mb, rNat sc.denom, rInt sc.amt, rNat pd] ++ rSchedules vs ++ [rNat mx.toNat, rInt rt, rInt st, rInt en])
    pure (c, v)
  | _, _ => c.fail .panic

def runEffs : List GEff → Ctx → AView → M (Ctx × AView)
  | [], c, v => pure (c, v)
  | e :: es, c, v => do
    let (c, v) ← applyEff e c v
    runEffs es c v

def runPlan (c : Ctx) (aid : Nat) (v : AView) (plan : Bool × List GEff) : M Ctx := do
  let (c, v) ← runEffs plan.2 c v
  if plan.1 then c.fail else pure (c.setView aid v)

/-- `runPlan` against the store: the working view is the one filed under `aid`; a plan that is
    accepted although no auction is filed under `aid` has no counterpart in the model -/
def runPlanAt (c : Ctx) (aid : Nat) (plan : Bool × List GEff) : M Ctx :=
  match c.s.views[aid]? with
  | some v => runPlan c aid v plan
  | none => if plan.1 then c.fail else c.fail .panic

/-- the same for an operation that CREATES the auction: the working view is appended -/
def runPlanNew (c : Ctx) (v : AView) (plan : Bool × List GEff) : M Ctx := do
  -- the working view is the one filed under the next free auction id: a write of the new
  -- record under any other key is rejected by `applyEff`
  let (c, v) ← runEffs plan.2 c { v with a := { v.a with id := c.s.views.length } }
  if plan.1 then c.fail else pure { c with s := { c.s with views := c.s.views ++ [v] } }

/-! ### settlement: the functions `BeginBlocker` reaches call each other; a recorded call of
    another keeper function is interpreted by the MODEL's function of that name (each of which
    has its own tie theorem), store writes go to the view in the context at once -/

def applySettle (aid : Nat) (e : GEff) (c : Ctx) : M Ctx :=
  match e.name, e.args with
  | .auctionSet, [.int k, .auction a] =>
    if k = (aid : Int) ∧ a.id = aid then do
      let v ← c.view aid
      pure (c.setView aid { v with a := a })
    else c.fail .panic
  | .vqSet, [.int k, .int r, .vq q] =>
    if k = (aid : Int) ∧ r = q.release then do
      let v ← c.view aid
      pure (c.setView aid { v with vqs := setVQ v.vqs q })
    else c.fail .panic
  | .sendCoins, [.addr src, dst, .coin cn] =>
    match dstOf dst with
    | none => c.fail .panic
    | some d => do
      let coins ← mkCoins c cn.denom cn.amt
      c.bankCall .send src d coins
  | .calcBatch, [.auction _] => do
    -- the store writes of `CalculateBatchAllocation`: matched flags and `MatchedBidsLen`
    let v ← c.view aid
    match calcBatch v.a v.bids v.allowed with
    | none => c.fail .panic
    | some mi =>
      pure (c.setView aid { v with bids := v.bids.map (fun b => { b with matched := mi.matchedIds.contains b.id }),
                                   matchedLen := mi.matchedLen })
  | .closeFixed, [.auction _] => closeFixed c aid
  | .closeBatch, [.auction _] => closeBatch c aid
  | .extendRound, [.auction _] => extendRound c aid
  | .allocateSellingCoin, [.auction a, .minfo mi] => allocateSellingCoin c a mi
  | .refundRemainingSellingCoin, [.auction a] => refundRemainingSellingCoin c a
  | .refundPayingCoin, [.auction a, .minfo mi] => refundPayingCoin c a mi
  | .applyVestingSchedules, [.auction a] => do
    -- the auction object carries the fields the caller changed in memory (matched price)
    let v ← c.view aid
    applyVestingSchedules (c.setView aid { v with a := a }) aid
  | _, _ => c.fail .panic

def runSettle (aid : Nat) : List GEff → Ctx → M Ctx
  | [], c => pure c
  | e :: es, c => do
    let c ← applySettle aid e c
    runSettle aid es c

def runSettlePlan (c : Ctx) (aid : Nat) (plan : Bool × List GEff) : M Ctx := do
  let c ← runSettle aid plan.2 c
  if plan.1 then c.fail else pure c

@[simp] theorem runSettle_nil (aid : Nat) (c : Ctx) : runSettle aid [] c = pure c := rfl
@[simp] theorem runSettle_cons (aid : Nat) (e : GEff) (es : List GEff) (c : Ctx) :
    runSettle aid (e :: es) c = (applySettle aid e c >>= fun c => runSettle aid es c) := rfl

@[simp] theorem runEffs_nil (c : Ctx) (v : AView) : runEffs [] c v = pure (c, v) := rfl
@[simp] theorem runEffs_cons (e : GEff) (es : List GEff) (c : Ctx) (v : AView) :
    runEffs (e :: es) c v = (applyEff e c v >>= fun p => runEffs es p.1 p.2) := rfl

theorem runEffs_one (e : GEff) (c : Ctx) (v : AView) : runEffs [e] c v = applyEff e c v := by
  rw [runEffs_cons]
  cases applyEff e c v <;> rfl

theorem runSettle_append (aid : Nat) (xs ys : List GEff) (c : Ctx) :
    runSettle aid (xs ++ ys) c = (runSettle aid xs c >>= fun c => runSettle aid ys c) := by
  induction xs generalizing c with
  | nil => simp
  | cons e es ih => simp only [List.cons_append, runSettle_cons, ih, bind_assoc]

theorem runSettle_ite (aid : Nat) (g : Prop) [Decidable g] (xs ys : List GEff) (c : Ctx) :
    runSettle aid (if g then xs else ys) c = if g then runSettle aid xs c else runSettle aid ys c := by
  split <;> rfl

theorem runSettlePlan_false (c : Ctx) (aid : Nat) (es : List GEff) :
    runSettlePlan c aid (false, es) = runSettle aid es c := by
  simp [runSettlePlan]

/-- the `…_eq_plan` lemmas run a plan by `simp only [runPlan_eq, runEffs_cons, runEffs_nil, applyEff, bind_assoc,
    pure_bind, if_true, and_self, Int.toNat_natCast]`: the plan is a literal list, `applyEff` reduces on each of
    its calls, and `if_true`, `and_self` discharge the key checks of the store writes -/
theorem runPlan_eq (c : Ctx) (aid : Nat) (v : AView) (b : Bool) (es : List GEff) : runPlan c aid v (b, es) =
    (runEffs es c v >>= fun p => if b then p.1.fail else pure (p.1.setView aid p.2)) := rfl

theorem runPlan_cons (c : Ctx) (aid : Nat) (v : AView) (b : Bool) (e : GEff) (es : List GEff) :
    runPlan c aid v (b, e :: es) = (applyEff e c v >>= fun p => runPlan p.1 aid p.2 (b, es)) := by
  simp only [runPlan_eq, runEffs_cons, bind_assoc]

/-- the plan a translated loop stands for when the function returns what the loop leaves: interrupted by a
    `return` (`.ret`), or run to its end with the calls recorded (`.done`) -/
def loopPlan : Loop (Bool × List GEff) (List GEff) → Bool × List GEff
  | .ret r => r
  | .done e => (false, e)

/-- a guard of the handler is the guard of its plan, whatever runs the plan (`runPlan c aid v`,
    `runPlanNew c v`): the refused plan `(true, [])` is the handler's refusal -/
theorem check_plan (c : Ctx) (run : Bool × List GEff → M Ctx) (hrun : run (true, []) = c.fail)
    {g : Bool} {k : Unit → M Ctx} {p : Bool × List GEff} (h : g = true → k () = run p) :
    (c.check g >>= k) = run (if g then p else (true, [])) := by
  cases g
  · exact hrun.symm
  · exact h rfl

end Go

/-! ### the two other interpreters: the payouts of a settlement (`AllocateSellingCoin`,
    `RefundPayingCoin`, tied in Proofs/Tie/Payout.lean) and the listeners of a hook
    (Proofs/Tie/Hooks.lean) -/

/-- interpretation of the recorded `InputOutputCoins` calls (one input, one output of the same
    one-coin set) with the model's bank primitive -/
def runIO : List GEff → Ctx → M Ctx
  | [], c => pure c
  | e :: es, c =>
    match e.name, e.args with
    | .inputOutputCoins, [.bankIn i, .bankOuts [o]] =>
      if i.coins = o.coins then do
        let coins ← mkCoins c i.coins.denom i.coins.amt
        let c ← c.bankCall .io i.addr (.user o.addr) coins
        runIO es c
      else c.fail .panic
    | _, _ => c.fail .panic

/-- execution of a listener-level plan: each recorded call is one listener's call of the hook -/
def runListeners (name : String) (sargs : List String) : List GEff → Ctx → M Ctx
  | [], c => pure c
  | e :: es, c =>
    match e.args with
    | .nat x :: _ => dispatchTo name sargs [x] c >>= runListeners name sargs es
    | _ => c.fail .panic

end Fundraising
