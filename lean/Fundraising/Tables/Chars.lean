/-
  Strings under kernel evaluation.  The kernel reads the literal `"abc"` as `String.ofList ['a', 'b', 'c']`; a `String`
  is the array of its UTF-8 bytes, and every operation of `String` works on those.  Evaluating one on a literal
  therefore first encodes the characters (each byte is pushed at the END of a list: quadratic in the length), and
  `String.toList` decodes them again by a well-founded recursion that indexes into that list (quadratic once more, and
  dearer still).  The usage line of `create-batch-auction` (some 150 characters) alone dominates a table theorem that way.

  What the table theorems do instead:
  * an equation between data is proved by `rfl`: both sides compute to the same literals, and those are compared as
    literals, never opened;
  * a checker that looks INTO strings is evaluated on characters.  The lemmas below move `==` and `startsWith`
    to `String.toList`, and `simp -index only [String.toList_ofList]` turns `"abc".toList` into `['a', 'b', 'c']`: the
    lemma's left side is `(String.ofList l).toList`, which no literal matches in `simp`'s index; tried on every
    `String.toList _` (`-index`) the unifier opens the literal, and all the kernel has to check is
    `"abc" ≡ String.ofList ['a', 'b', 'c']`, which is linear.
  What is left to `decide +kernel` after that, `==` between short names, still goes through the bytes.
-/
namespace Fundraising.Tables

theorem beq_eq_toList_beq (a b : String) : (a == b) = (a.toList == b.toList) := by
  rw [Bool.eq_iff_iff]; simp [String.toList_inj]

theorem beq_eq_map_toList_beq (l₁ l₂ : List String) :
    (l₁ == l₂) = (l₁.map String.toList == l₂.map String.toList) := by
  rw [Bool.eq_iff_iff]; simp [List.map_inj_right fun _ _ => String.toList_injective]

theorem startsWith_eq_isPrefixOf (s p : String) : s.startsWith p = p.toList.isPrefixOf s.toList := by
  rw [Bool.eq_iff_iff]; simp

end Fundraising.Tables
