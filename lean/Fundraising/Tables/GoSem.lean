import Fundraising.Model.Keeper
/-
  Prelude of the GENERATED code (`Generated/Code/*.lean`, produced from /repo's Go source by the
  GoLite translator `extract/golite.go`): the few helpers the translation refers to that are
  not already definitions of the model.  Everything here is core-only and executable.
-/
namespace Fundraising

/-- a unit the translator could not translate (a construct outside the GoLite subset, an
    unknown field/method, a renamed parameter).  The tie theorems of `Proofs/Tie/*.lean`
    do not type-check against a value of this type, so the obligation breaks. -/
structure Untranslated where
  reason : String

/-- result of a translated `for … range` loop: the function returned inside the loop, or the
    loop ended (normally or by `break`) with the loop-carried variables -/
inductive Loop (ρ σ : Type) where
  | ret (r : ρ)
  | done (s : σ)

/-- the request messages as the Go code sees them (`types.MsgPlaceBid`, …) -/
structure PlaceMsg where
  bidder : Acc
  aid : Nat
  bidType : Option BidType
  price : Dec
  denom : Denom
  amt : Int
  deriving Repr, Inhabited

structure ModifyMsg where
  bidder : Acc
  aid : Nat
  bidId : Nat
  price : Dec
  denom : Denom
  amt : Int
  deriving Repr, Inhabited

structure CancelMsg where
  signer : Acc
  aid : Nat
  deriving Repr, Inhabited

/-- `types.GenesisState` (allowed bidders as complete records, as exported) -/
structure GenesisG where
  params : Params
  auctions : List Auction
  allowed : List AllowedArg
  bids : List Bid
  vqs : List VQ
  deriving Repr, Inhabited

structure UpdateParamsMsg where
  signer : Acc
  params : Params
  deriving Repr, Inhabited

structure AddAllowedMsg where
  aid : Nat
  ab : AllowedArg
  deriving Repr, Inhabited

/-- `types.BidderMatchResult` -/
structure BidderRes where
  pay : Int := 0
  matched : Int := 0
  deriving Repr, Inhabited, DecidableEq

/-- the part of `types.MatchResult` + the local maps of `types.Match` that the per-bid step
    reads and writes -/
structure MatchState where
  price : Dec
  total : Int
  matched : List Bid
  byBidder : Acc → Option BidderRes

abbrev SdkCtx := Unit

/-- `types.MsgPlaceBid` as the keeper sees it (after `ValidateBasic`: the bid type is one of
    the three defined ones) -/
structure PlaceMsgK where
  bidder : Acc
  aid : Nat
  bidType : BidType
  price : Dec
  denom : Denom
  amt : Int
  deriving Repr, Inhabited

/-- `banktypes.Input` / `banktypes.Output` with a one-coin set -/
structure BankIn where
  addr : Addr
  coins : Coin
  deriving Repr, Inhabited

structure BankOut where
  addr : Acc
  coins : Coin
  deriving Repr, Inhabited

/-- values recorded in the effect list of a translated keeper function -/
inductive GVal where
  | int (i : Int) | nat (n : Nat) | bool (b : Bool) | coin (c : Coin) | bid (b : Bid)
  | addr (a : Addr) | status (s : Status) | auction (a : Auction) | vq (q : VQ) | ints (l : List Int)
  | bidType (t : BidType) | sched (l : List VS) | allowed (l : List AllowedArg) | allowed1 (a : AllowedArg)
  | minfo (m : MInfo) | params (p : Params) | bankIn (i : BankIn) | bankOuts (l : List BankOut) | amap (m : Acc → Option Int)
  | coins (l : List Coin)

/-- the calls a translated keeper function can record: store writes, bank / distribution
    calls, hooks, calls of other keeper functions -/
inductive GName where
  | payPlaceBidFee | payCreationFee | reservePayingCoin | reserveSellingCoin | nextBidId
  | auctionSet | bidSet | allowedSet | vqSet | sendCoins
  | beforeBidPlaced | beforeBidModified | beforeAuctionCanceled | beforeAllowedBiddersAdded
  | beforeAllowedBidderUpdated | beforeFixedCreated | afterFixedCreated | beforeBatchCreated | afterBatchCreated
  | execStandBy | execStarted | execVesting | closeFixed | closeBatch | extendRound
  | allocateSellingCoin | refundRemainingSellingCoin | refundPayingCoin | applyVestingSchedules
  | calcBatch | paramsSet | matchedLenSet | beforeSellingCoinsAllocated | inputOutputCoins
  | fundPool
  deriving DecidableEq, Repr

/-- one recorded call of a translated keeper function -/
structure GEff where
  name : GName
  args : List GVal

namespace Go

def bidCoin (b : Bid) : Coin := ⟨b.denom, b.amt⟩
def sellingCoin (a : Auction) : Coin := ⟨a.sellDenom, a.sellAmt⟩
def remainingCoin (a : Auction) : Coin := ⟨a.sellDenom, a.remaining⟩
def vqCoin (q : VQ) : Coin := ⟨q.denom, q.amt⟩

@[simp, grind =] theorem bidCoin_denom (b : Bid) : (bidCoin b).denom = b.denom := rfl
@[simp, grind =] theorem bidCoin_amt (b : Bid) : (bidCoin b).amt = b.amt := rfl
@[simp, grind =] theorem sellingCoin_denom (a : Auction) : (sellingCoin a).denom = a.sellDenom := rfl
@[simp, grind =] theorem sellingCoin_amt (a : Auction) : (sellingCoin a).amt = a.sellAmt := rfl
@[simp, grind =] theorem remainingCoin_denom (a : Auction) : (remainingCoin a).denom = a.sellDenom := rfl
@[simp, grind =] theorem remainingCoin_amt (a : Auction) : (remainingCoin a).amt = a.remaining := rfl
@[simp, grind =] theorem vqCoin_denom (q : VQ) : (vqCoin q).denom = q.denom := rfl
@[simp, grind =] theorem vqCoin_amt (q : VQ) : (vqCoin q).amt = q.amt := rfl

/-- `types.NewBaseAuction(…)`.  In the model the three reserve addresses are FUNCTIONS of the
    auction id and are not stored; an auction record whose stored reserve addresses are not the
    ones derived from its own id (`types.SellingReserveAddress(id)` …) has no counterpart in the
    model: it is mapped to the default record, and the tie of the creating handler fails -/
def newBaseAuction (id : Int) (ty : AType) (auctioneer : Acc) (sell pay : Addr) (startPrice : Dec)
    (sellingCoin : Coin) (payDenom : Denom) (vest : Addr) (schedules : List VS) (startTime : Int)
    (endTimes : List Int) (status : Status) : Auction :=
  if sell = Addr.sell id.toNat ∧ pay = Addr.pay id.toNat ∧ vest = Addr.vest id.toNat then
    { id := id.toNat, type := ty, auctioneer := auctioneer, sellDenom := sellingCoin.denom, sellAmt := sellingCoin.amt,
      payDenom := payDenom, startPrice := startPrice, startTime := startTime, endTimes := endTimes,
      schedules := schedules, status := status }
  else default

/-- `types.NewFixedPriceAuction(base, remainingSellingCoin)` -/
def newFixedPriceAuction (ba : Auction) (remaining : Coin) : Auction := { ba with remaining := remaining.amt }

/-- `types.NewBatchAuction(base, minBidPrice, matchedPrice, maxExtendedRound, extendedRoundRate)` -/
def newBatchAuction (ba : Auction) (minBid matched : Dec) (maxExt : Int) (rate : Dec) : Auction :=
  { ba with minBid := minBid, matchedPrice := matched, maxExt := maxExt.toNat, rate := rate }

/-- `fmt.Sprint(x)` as a component of a map key built by string concatenation -/
class KeyPart (α : Type) where
  part : α → List Int
instance : KeyPart Int := ⟨fun i => [i]⟩
instance : KeyPart Nat := ⟨fun n => [(n : Int)]⟩
def keyPart {α : Type} [KeyPart α] (x : α) : List Int := KeyPart.part x

/-- `xs[i]` on a slice; Go panics out of range — callers state the range as a hypothesis -/
def index {α : Type} [Inhabited α] (xs : List α) (i : Int) : α := xs.getD i.toNat default

/-- `t.AddDate(y, m, d)` in UTC for `y = m = 0` (the only use): whole days -/
def addDate (t : Int) (y m d : Int) : Int := if y = 0 ∧ m = 0 then t + 86400 * d else t

/-- `MustParseRFC3339`: the only literal in the translated code is the zero time -/
def parseTime (s : String) : Int := if s = "0001-01-01T00:00:00Z" then TIME_ZERO else 0

/-- `m[k] = v` on a Go map -/
def mapSet {κ ν : Type} [DecidableEq κ] (m : κ → Option ν) (k : κ) (v : ν) : κ → Option ν :=
  fun k' => if k' = k then some v else m k'

end Go

/-- a second `m[k] = w` overwrites the first (the loop body of `types.Match` writes a bidder's entry twice) -/
theorem mapSet_mapSet {κ ν : Type} [DecidableEq κ] (f : κ → Option ν) (k : κ) (v w : ν) :
    Go.mapSet (Go.mapSet f k v) k w = Go.mapSet f k w := by
  funext x; simp only [Go.mapSet]; split <;> rfl

/-- reading back the key just written; no other theorem uses it -/
theorem mapSet_self {κ ν : Type} [DecidableEq κ] (f : κ → Option ν) (k : κ) (v : ν) :
    Go.mapSet f k v k = some v := by simp [Go.mapSet]

/-- one more `m[k] = v k` of a loop that sets `m[u] = v u` for every key `u` of a list -/
theorem Go.mapSet_fill {κ ν : Type} [DecidableEq κ] (m : κ → Option ν) (v : κ → ν) (k : κ) (ks : List κ) :
    (fun u => if u ∈ ks then some (v u) else Go.mapSet m k (v k) u) =
      fun u => if u ∈ k :: ks then some (v u) else m u := by
  funext u
  by_cases hu : u = k <;> simp [Go.mapSet, hu]

end Fundraising
