import Fundraising.Model.Match
/-
  Declarative specification of batch clearing (property C03, and the batch halves of
  C04 and C05): capped demand, the "fits the supply" predicate, the lowest fitting
  price.  Nothing here refers to the sweep or to the binary search.
-/
namespace Fundraising

/-- the quantity bid `b` asks for at price `p` -/
def qtyAt (b : Bid) (p : Dec) : Int := (bidQty b p).getD 0

/-- the allow-list cap of `u` (0 when not listed) -/
def capOf (allowed : List Allowed) (u : Acc) : Int := ((lookupAllowed allowed u).map (·.cap)).getD 0

/-- what bidder `u` asks for at price `p`: all of `u`'s bids priced at or above `p` -/
def rawDemand (bids : List Bid) (u : Acc) (p : Dec) : Int :=
  ((bids.filter (fun b => b.bidder == u && decide (p ≤ b.price))).map (qtyAt · p)).sum

/-- … limited to `u`'s maximum bid amount -/
def cappedDemand (bids : List Bid) (allowed : List Allowed) (u : Acc) (p : Dec) : Int :=
  min (rawDemand bids u p) (capOf allowed u)

/-- total capped demand at price `p` -/
def demand (bids : List Bid) (allowed : List Allowed) (p : Dec) : Int :=
  ((biddersOf bids).map (fun u => cappedDemand bids allowed u p)).sum

/-- the amount reserved for bidder `u` (sum of the bids' paying amounts) -/
def reservedOf (bids : List Bid) (payDenom : Denom) (u : Acc) : Int :=
  sumOver bids u (·.toPaying payDenom)

/-- `p` is the lowest recorded bid price at which capped demand fits the supply `S` -/
def IsClearingPrice (bids : List Bid) (allowed : List Allowed) (S : Int) (p : Dec) : Prop :=
  (∃ b ∈ bids, b.price = p) ∧ demand bids allowed p ≤ S ∧
  ∀ b ∈ bids, demand bids allowed b.price ≤ S → p ≤ b.price

/-- no recorded bid price fits -/
def NoPriceFits (bids : List Bid) (allowed : List Allowed) (S : Int) : Prop :=
  ∀ b ∈ bids, ¬ demand bids allowed b.price ≤ S

/-- well-formed batch order book: what `ValidateBasic`, `PlaceBid` and `AddAllowedBidders`
    guarantee for every bid recorded in a batch auction (proved as part of the reachable-
    state invariant `WF`: `bookWF_of_viewWF`, Proofs/WFViews.lean) -/
structure BookWF (a : Auction) (bids : List Bid) (allowed : List Allowed) : Prop where
  types : ∀ b ∈ bids, b.type = .worth ∨ b.type = .many
  denoms : ∀ b ∈ bids, (b.type = .worth → b.denom = a.payDenom) ∧ (b.type = .many → b.denom ≠ a.payDenom)
  prices : ∀ b ∈ bids, 0 < b.price
  amts : ∀ b ∈ bids, 0 < b.amt
  listed : ∀ b ∈ bids, (lookupAllowed allowed b.bidder).isSome
  caps : ∀ x ∈ allowed, 0 < x.cap
  supply : 0 < a.sellAmt
  ids : (bids.map (·.id)).Nodup

def lookupAmt (m : List (Acc × Int)) (u : Acc) : Int := ((m.find? (·.1 == u)).map (·.2)).getD 0

end Fundraising
